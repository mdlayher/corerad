/-
  Lemmas that relate the LOOP form of the wildcard expansions — a left fold whose state is the pair
  (`prefixes` slice, `seen` set), as regenerated from the Go source by tools/extract/translate_loop.go —
  to the declarative form of the model (`dedupe ∘ map ∘ filter`, `sortBy`).
-/
import Corerad.Lemmas.ListUtil

namespace Corerad.Lemmas.LoopFold

open Corerad.Model

variable {α β : Type}

/-- the body of the `seen`-set loops: skip, or look the key up, or record and append it -/
def step [DecidableEq β] (skip : α → Bool) (f : α → β) (st : List β × List β) (a : α) : List β × List β :=
  if skip a = true then st
  else if decide (f a ∈ st.2) = true then st
  else (st.1 ++ [f a], f a :: st.2)

theorem dedupe_cons_filter_notin [DecidableEq β] (y : β) (l seen : List β) :
    (dedupe (y :: l)).filter (fun z => decide (z ∉ seen)) =
      if y ∈ seen then (dedupe l).filter (fun z => decide (z ∉ seen))
      else y :: (dedupe l).filter (fun z => decide (z ∉ y :: seen)) := by
  simp only [dedupe, List.filter_cons, List.filter_filter]
  by_cases hy : y ∈ seen
  · simp only [hy, not_true_eq_false, decide_false, Bool.false_eq_true, if_false, if_true]
    refine List.filter_congr fun z _ => ?_
    by_cases hz : z ∈ seen
    · simp [hz]
    · simp [hz, show z ≠ y from fun h => hz (h ▸ hy)]
  · simp only [hy, not_false_eq_true, decide_true, if_true, if_false, List.cons.injEq, true_and]
    exact List.filter_congr fun z _ => by simp [Bool.and_comm]

theorem foldl_step_fst [DecidableEq β] (skip : α → Bool) (f : α → β) (l : List α) (ps seen : List β) :
    (l.foldl (step skip f) (ps, seen)).1
      = ps ++ (dedupe ((l.filter (fun a => !skip a)).map f)).filter (fun z => decide (z ∉ seen)) := by
  induction l generalizing ps seen with
  | nil => simp [dedupe]
  | cons a l ih =>
    rw [List.foldl_cons]
    by_cases hs : skip a = true
    · simp [step, hs, ih]
    · have hs' : skip a = false := by simpa using hs
      simp only [step, hs', List.filter_cons, Bool.not_false, if_true, Bool.false_eq_true, if_false,
        List.map_cons, dedupe_cons_filter_notin, decide_eq_true_eq]
      split
      · exact ih _ _
      · rw [ih, List.append_assoc]; rfl

theorem foldl_step_nil [DecidableEq β] (skip : α → Bool) (f : α → β) (l : List α) :
    (l.foldl (step skip f) ([], [])).1 = dedupe ((l.filter (fun a => !skip a)).map f) := by
  rw [foldl_step_fst]
  simp

/-- `dedupe` commutes with the identity map (used when the key is the element itself) -/
theorem map_id_filter (l : List α) (p : α → Bool) : (l.filter p).map id = l.filter p := by simp

/-! ### `slices.SortStableFunc` with a comparator that orders by a `Nat` key -/

theorem insertCmp_eq_insertBy (cmp : α → α → Int) (key : α → Nat) (x : α) (l : List α)
    (h : ∀ y ∈ l, (cmp x y ≤ 0 ↔ key x ≤ key y)) :
    insertCmp cmp x l = insertBy key x l := by
  induction l with
  | nil => rfl
  | cons y ys ih =>
    have hy := h y (by simp)
    have ih' := ih (fun z hz => h z (by simp [hz]))
    simp only [insertCmp, insertBy]
    by_cases hc : cmp x y ≤ 0
    · simp [hc, hy.mp hc]
    · have : ¬ key x ≤ key y := fun hk => hc (hy.mpr hk)
      simp [hc, this, ih']

theorem sortStableFunc_eq_sortBy [DecidableEq α] (cmp : α → α → Int) (key : α → Nat) (l : List α)
    (h : ∀ x ∈ l, ∀ y ∈ l, (cmp x y ≤ 0 ↔ key x ≤ key y)) :
    sortStableFunc cmp l = sortBy key l := by
  induction l with
  | nil => rfl
  | cons x xs ih =>
    have ih' := ih (fun a ha b hb => h a (by simp [ha]) b (by simp [hb]))
    simp only [sortStableFunc, sortBy, ih']
    apply insertCmp_eq_insertBy
    intro y hy
    have hy' : y ∈ xs := mem_sortBy.mp hy
    exact h x (by simp) y (by simp [hy'])

theorem foldl_skip (skip : α → Bool) (g : β → α → β) (l : List α) (b : β) :
    l.foldl (fun b a => if skip a = true then b else g b a) b = (l.filter (fun a => !skip a)).foldl g b := by
  rw [List.foldl_filter]
  congr 1
  funext b a
  cases skip a <;> rfl

/-- The shape of `(*Prefix).current` and `(*Route).current`: a loop `g` that, on the elements of the
    list, is the `seen`-set loop keeping what `keep` accepts, followed by a stable sort whose
    comparator orders the collected keys as `key` does. -/
theorem seenLoop_sorted [DecidableEq β] (g : List β × List β → α → List β × List β)
    (keep : α → Bool) (f : α → β) (cmp : β → β → Int) (key : β → Nat) (l : List α)
    (hg : ∀ st, ∀ a ∈ l, g st a = step (fun a => !keep a) f st a)
    (hc : ∀ a ∈ l, ∀ b ∈ l, (cmp (f a) (f b) ≤ 0 ↔ key (f a) ≤ key (f b))) :
    sortStableFunc cmp (l.foldl g ([], [])).1 = sortBy key (dedupe ((l.filter keep).map f)) := by
  rw [foldl_congr_mem g _ l _ hg, foldl_step_nil]
  simp only [Bool.not_not]
  apply sortStableFunc_eq_sortBy
  intro x hx y hy
  obtain ⟨a, ha, rfl⟩ := List.mem_map.mp (mem_dedupe.mp hx)
  obtain ⟨b, hb, rfl⟩ := List.mem_map.mp (mem_dedupe.mp hy)
  exact hc a (List.mem_filter.mp ha).1 b (List.mem_filter.mp hb).1

end Corerad.Lemmas.LoopFold
