/-
  Validators in accepting form.  A Go validator is a chain of early returns and calls of further
  validators; its model is a `do` block in `Option`.  Each lemma pushes one step of such a chain into
  the form `if b then some v else none`, so that `simp only` with them turns the whole chain into one
  test and one value.
-/
namespace Corerad.Accept

theorem reject_else {α : Type} (c : Prop) [Decidable c] (t : Option α) :
    (if c then none else t) = if (!decide c) = true then t else none := by
  by_cases h : c <;> simp [h]

theorem reject_unless {α : Type} {c c' : Prop} [Decidable c] [Decidable c'] (h : ¬c ↔ c') (t : Option α) :
    (if c then none else t) = if c' then t else none := by
  by_cases hc : c
  · rw [if_pos hc, if_neg (mt h.mpr (not_not_intro hc))]
  · rw [if_neg hc, if_pos (h.mp hc)]

theorem then_then {α : Type} (d b : Bool) (t : Option α) :
    (if d = true then (if b = true then t else none) else none) =
      if (d && b) = true then t else none := by
  cases d <;> rfl

theorem bind_accept {α β : Type} (d : Bool) (e : α) (k : α → Option β) :
    (if d = true then some e else none).bind k = if d = true then k e else none := by
  cases d <;> rfl

theorem accept_eq_some {α : Type} {d : Bool} {e v : α} :
    (if d = true then some e else none) = some v ↔ d = true ∧ v = e := by
  cases d <;> simp [eq_comm]

/-- for a step whose result the specification reads through `isSome` and `getD dflt` -/
theorem bind_isSome {α β : Type} (dflt : α) (o : Option α) (k : α → Option β) :
    o.bind k = if o.isSome = true then k (o.getD dflt) else none := by
  cases o <;> rfl

theorem between_eq (lo hi x : Int) :
    (!decide (x < lo ∨ x > hi)) = (decide (lo ≤ x) && decide (x ≤ hi)) := by
  rw [Bool.eq_iff_iff]
  simp only [Bool.and_eq_true, Bool.not_eq_true', decide_eq_true_eq, decide_eq_false_iff_not]
  omega

end Corerad.Accept
