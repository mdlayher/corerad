/-
  For the equivalences between translated Go functions and the model (`Props/TransCxx.lean`).
  Their left side is regenerated from the source on every run, so its text changes with harmless
  rewrites of that source (a renamed local, `b > a` for `a < b`, an early return for an `else`, a
  De Morgan step), and a proof that rewrites with the shape of that text, or closes a branch by
  `rfl`, would break with them.  Unfolded, such an equivalence is an equation between two `if`-trees
  over linear integer arithmetic: `split_leaves` splits every test of either side and closes each
  leaf from the hypotheses of its branch.
-/
namespace Corerad

macro "split_leaves" : tactic =>
  `(tactic| ((repeat' split) <;> first | omega | rfl | (simp_all; done) | (simp_all; omega)))

end Corerad
