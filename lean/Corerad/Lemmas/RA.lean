/-
  Equations of `Model/RA.lean`: `applyAll` step by step as `optAppend`, and `routerAdvertisement`
  as the plugin fold followed by `finishRA` (header copy and forwarding rule), whose result is
  given field by field.
-/
import Corerad.Model.RA

namespace Corerad.Model

open Corerad Corerad.Model.Observe

def optAppend (a b : Option (List Opt)) : Option (List Opt) :=
  match a, b with
  | some x, some y => some (x ++ y)
  | _, _ => none

theorem optAppend_eq_bind (a b : Option (List Opt)) :
    optAppend a b = a.bind fun x => b.bind fun y => some (x ++ y) := by
  cases a <;> cases b <;> rfl

theorem optAppend_some_left (x : List Opt) (b : Option (List Opt)) : optAppend (some x) b = b.map (x ++ ·) := by
  cases b <;> rfl

theorem optAppend_assoc (a b c : Option (List Opt)) :
    optAppend (optAppend a b) c = optAppend a (optAppend b c) := by
  cases a <;> cases b <;> cases c <;> simp [optAppend]

theorem optAppend_eq_some {a b : Option (List Opt)} {l : List Opt} :
    optAppend a b = some l ↔ ∃ x y, a = some x ∧ b = some y ∧ x ++ y = l := by
  cases a <;> cases b <;> simp [optAppend]

theorem optAppend_eq_none {a b : Option (List Opt)} : optAppend a b = none ↔ a = none ∨ b = none := by
  cases a <;> cases b <;> simp [optAppend]

theorem applyAll_cons (sys : SysState) (p : Plugin) (ps : List Plugin) :
    applyAll sys (p :: ps) = optAppend (p.apply sys) (applyAll sys ps) := by
  simp only [applyAll, optAppend]
  cases p.apply sys <;> cases applyAll sys ps <;> rfl

theorem mem_applyAll {sys : SysState} {ps : List Plugin} {opts : List Opt} (h : applyAll sys ps = some opts)
    {o : Opt} (ho : o ∈ opts) : ∃ p ∈ ps, ∃ l, p.apply sys = some l ∧ o ∈ l := by
  induction ps generalizing opts with
  | nil => cases h; cases ho
  | cons p ps ih =>
    rw [applyAll_cons, optAppend_eq_some] at h
    obtain ⟨a, rest, ha, hr, rfl⟩ := h
    rcases List.mem_append.mp ho with ho | ho
    · exact ⟨p, List.mem_cons_self, a, ha, ho⟩
    · obtain ⟨q, hq, l, hl, hol⟩ := ih hr ho
      exact ⟨q, List.mem_cons_of_mem _ hq, l, hl, hol⟩

theorem normSys_mac_len {sys : SysState} {l m : Nat} (h : (normSys true sys).mac = some (l, m)) : l = 6 := by
  simpa using (Option.filter_eq_some_iff.mp h).2

theorem routerAdvertisement_eq (ifi : Interface) (sys : SysState) (fw : Bool) :
    routerAdvertisement ifi sys fw = (applyAll sys ifi.plugins).map (finishRA ifi fw) := by
  unfold routerAdvertisement finishRA
  cases applyAll sys ifi.plugins with
  | none => rfl
  | some opts => simp only [Option.map]; split <;> rfl

theorem routerAdvertisement_eq_some {ifi : Interface} {sys : SysState} {fw : Bool} {r : RA × Bool} :
    routerAdvertisement ifi sys fw = some r ↔
      ∃ opts, applyAll sys ifi.plugins = some opts ∧ finishRA ifi fw opts = r := by
  rw [routerAdvertisement_eq, Option.map_eq_some_iff]

theorem finishRA_eq (ifi : Interface) (fw : Bool) (opts : List Opt) :
    finishRA ifi fw opts =
      ({ hopLimit := ifi.hopLimit, managed := ifi.managed, other := ifi.otherConfig,
         preference := ifi.preference,
         routerLifetime := if fw = false ∧ 0 < ifi.defaultLifetime then 0 else ifi.defaultLifetime,
         reachable := ifi.reachable, retransmit := ifi.retransmit, options := opts },
       decide (fw = false ∧ 0 < ifi.defaultLifetime)) := by
  unfold finishRA
  cases fw <;> by_cases h : 0 < ifi.defaultLifetime <;> simp [h]

theorem zeroed_of_nonneg {d : Dur} (h : 0 ≤ d) : (if 0 < d then 0 else d) = 0 := by
  split <;> omega

end Corerad.Model
