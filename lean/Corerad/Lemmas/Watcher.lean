/-
  Helper vocabulary and lemmas for C19 (Props/C19.lean).

  One `notify` appends to a channel its matching changes as far as they fit (`Sub.push`); every
  operation acts on each registered channel by itself (`stepSub`), so a run is followed one
  subscriber at a time.
-/
import Corerad.Spec.C19

namespace Corerad.Model.Watcher

open Corerad Corerad.Spec.C19

theorem sub_min_self (k l : Nat) : k - min k l = k - l := by
  rw [Nat.min_def]
  split
  · rename_i h; rw [Nat.sub_self, Nat.sub_eq_zero_of_le h]
  · rfl

theorem take_append_take (n : Nat) (b l₁ l₂ : List α) :
    (b ++ l₁.take (n - b.length)) ++ l₂.take (n - (b ++ l₁.take (n - b.length)).length) =
      b ++ (l₁ ++ l₂).take (n - b.length) := by
  rw [List.take_append, List.append_assoc, List.length_append, List.length_take, Nat.sub_add_eq,
    sub_min_self]

/-! ### vocabulary used in the statements -/

/-- one subscriber, all changes of one interface entry of a change set -/
def deliverList (i : Nat) (s : Sub) (l : List Nat) : Sub := l.foldl (fun s c => deliver i c s) s

/-- one subscriber, one whole `notify` call -/
def deliverSet (s : Sub) (cs : List (Nat × List Nat)) : Sub :=
  cs.foldl (fun s e => deliverList e.1 s e.2) s

/-- the matching changes for a subscriber `(iface, mask)` in a history, in order of occurrence -/
def offered (iface mask : Nat) : List Op → List Nat
  | [] => []
  | .notify cs :: ops => (cs.flatMap fun e => e.2.filter (wants iface mask e.1)) ++ offered iface mask ops
  | .subscribe _ _ :: ops => offered iface mask ops
  | .drain _ _ :: ops => offered iface mask ops
  | .endWatch :: ops => offered iface mask ops

/-- everything subscriber `j` received in the `drain` operations of `ops` (observations `obs`) -/
def receivedBy (j : Nat) : List Op → List Obs → List Nat
  | [], _ => []
  | .drain id _ :: ops, o :: obs => (if id = j then o.got else []) ++ receivedBy j ops obs
  | .drain _ _ :: ops, [] => receivedBy j ops []
  | .subscribe _ _ :: ops, obs => receivedBy j ops obs
  | .notify _ :: ops, obs => receivedBy j ops obs
  | .endWatch :: ops, obs => receivedBy j ops obs

/-- what is still buffered for subscriber `j` -/
def bufAt (j : Nat) (st : State) : List Nat := (st[j]?.map (·.buf)).getD []

/-- number of `subscribe` operations -/
def nsubs : List Op → Nat
  | [] => 0
  | .subscribe _ _ :: ops => nsubs ops + 1
  | _ :: ops => nsubs ops

/-- per subscriber, how often its channel has been closed -/
def closesOf (st : State) : List Nat := st.map (·.closes)

/-- the matching changes of one `notify` call for a subscriber -/
def offeredSet (iface mask : Nat) (cs : List (Nat × List Nat)) : List Nat :=
  cs.flatMap fun e => e.2.filter (wants iface mask e.1)

/-! ### one channel: non-blocking sends -/

/-- `l` is sent to the channel value by value without blocking: what fits is queued, in order -/
def Sub.push (s : Sub) (l : List Nat) : Sub := { s with buf := s.buf ++ l.take (8 - s.buf.length) }

@[simp] theorem push_iface (s : Sub) (l : List Nat) : (s.push l).iface = s.iface := rfl
@[simp] theorem push_mask (s : Sub) (l : List Nat) : (s.push l).mask = s.mask := rfl
theorem push_buf (s : Sub) (l : List Nat) : (s.push l).buf = s.buf ++ l.take (8 - s.buf.length) := rfl

theorem push_nil (s : Sub) : s.push [] = s := by
  simp [Sub.push]

theorem push_singleton (s : Sub) (c : Nat) :
    s.push [c] = if s.buf.length < 8 then { s with buf := s.buf ++ [c] } else s := by
  unfold Sub.push
  split
  · rw [List.take_of_length_le (show [c].length ≤ _ by simp only [List.length_singleton]; omega)]
  · simp [Nat.sub_eq_zero_of_le (Nat.le_of_not_lt ‹_›)]

theorem push_push (s : Sub) (l₁ l₂ : List Nat) : (s.push l₁).push l₂ = s.push (l₁ ++ l₂) := by
  unfold Sub.push
  simp only [take_append_take]

theorem push_buf_of_room {s : Sub} {l : List Nat} (h : (s.push l).buf.length < 8) :
    (s.push l).buf = s.buf ++ l := by
  rw [push_buf, List.length_append, List.length_take, Nat.min_def] at h
  split at h
  · omega
  · rw [push_buf, List.take_of_length_le (by omega)]

theorem push_buf_of_fits {s : Sub} {l : List Nat} (h : s.buf.length + l.length ≤ 8) :
    (s.push l).buf = s.buf ++ l := by
  rw [push_buf, List.take_of_length_le (by omega)]

theorem wants_iff (iface mask i c : Nat) :
    wants iface mask i c = true ↔ iface = i ∧ mask &&& c ≠ 0 := by
  simp only [wants, Bool.and_eq_true, beq_iff_eq, bne_iff_ne, ne_eq]
  exact and_congr_left' eq_comm

theorem cap_eq : cap = 8 := rfl

theorem deliver_eq (i c : Nat) (s : Sub) :
    deliver i c s =
      if s.iface = i ∧ s.mask &&& c ≠ 0 ∧ s.buf.length < 8 then { s with buf := s.buf ++ [c] } else s := by
  unfold deliver
  rw [cap_eq]
  by_cases h1 : s.iface = i
  · by_cases h2 : s.mask &&& c = 0 <;> simp [h1, h2]
  · simp [h1]

theorem deliver_eq_push (i c : Nat) (s : Sub) :
    deliver i c s = s.push ([c].filter (wants s.iface s.mask i)) := by
  rw [deliver_eq]
  by_cases hw : wants s.iface s.mask i c = true
  · obtain ⟨h1, h2⟩ := (wants_iff ..).mp hw
    rw [List.filter_cons_of_pos hw, List.filter_nil, push_singleton]
    simp only [h1, h2, true_and, ne_eq, not_false_eq_true]
  · rw [List.filter_cons_of_neg hw, List.filter_nil, push_nil]
    exact if_neg fun h => hw ((wants_iff ..).mpr ⟨h.1, h.2.1⟩)

@[simp] theorem closed_deliver (i c : Nat) (s : Sub) : (deliver i c s).closed = s.closed := by
  rw [deliver_eq_push]; rfl

@[simp] theorem deliverList_nil (i : Nat) (s : Sub) : deliverList i s [] = s := rfl
theorem deliverList_cons (i c : Nat) (s : Sub) (l : List Nat) :
    deliverList i s (c :: l) = deliverList i (deliver i c s) l := rfl
@[simp] theorem deliverSet_nil (s : Sub) : deliverSet s [] = s := rfl
theorem deliverSet_cons (s : Sub) (e : Nat × List Nat) (cs : List (Nat × List Nat)) :
    deliverSet s (e :: cs) = deliverSet (deliverList e.1 s e.2) cs := rfl

theorem deliverList_eq (i : Nat) (s : Sub) (l : List Nat) :
    deliverList i s l = s.push (l.filter (wants s.iface s.mask i)) := by
  induction l generalizing s with
  | nil => exact (push_nil s).symm
  | cons c l ih =>
    rw [deliverList_cons, ih, deliver_eq_push, push_push, push_iface, push_mask, ← List.filter_append]
    rfl

theorem deliverSet_eq (s : Sub) (cs : List (Nat × List Nat)) :
    deliverSet s cs = s.push (offeredSet s.iface s.mask cs) := by
  induction cs generalizing s with
  | nil => exact (push_nil s).symm
  | cons e cs ih =>
    rw [deliverSet_cons, ih, deliverList_eq, push_push, push_iface, push_mask]
    rfl

/-! ### the operations, one subscriber at a time -/

theorem notifyIface_eq_map (st : State) (e : Nat × List Nat) :
    notifyIface st e = st.map (fun s => deliverList e.1 s e.2) := by
  obtain ⟨i, l⟩ := e
  unfold notifyIface
  simp only
  induction l generalizing st with
  | nil => simp
  | cons c l ih =>
    rw [List.foldl_cons, ih]
    unfold notifyChange
    rw [List.map_map]
    rfl

theorem notify_eq_map (st : State) (cs : List (Nat × List Nat)) :
    notify st cs = st.map (fun s => deliverSet s cs) := by
  unfold notify
  induction cs generalizing st with
  | nil => simp
  | cons e cs ih =>
    rw [List.foldl_cons, ih, notifyIface_eq_map, List.map_map]
    rfl

theorem drain_fst (st : State) (id n : Nat) :
    (drain st id n).1 = st.modify id fun s => (drainSub n s).1 := by
  rw [List.modify_eq_set]
  unfold drain
  cases h : st[id]? with
  | none => simp [List.set_eq_of_length_le (List.getElem?_eq_none_iff.mp h)]
  | some s => simp

theorem drain_snd {st : State} {j : Nat} {s : Sub} (h : st[j]? = some s) (n : Nat) :
    (drain st j n).2 = (drainSub n s).2 := by
  simp [drain, h]

/-- what one operation does to the channel of subscriber `j` -/
def stepSub (j : Nat) (s : Sub) : Op → Sub
  | .subscribe _ _ => s
  | .notify cs => s.push (offeredSet s.iface s.mask cs)
  | .drain id n => if id = j then (drainSub n s).1 else s
  | .endWatch => { s with closes := s.closes + 1 }

def fresh : Op → State
  | .subscribe i m => [{ iface := i, mask := m }]
  | .notify _ => []
  | .drain _ _ => []
  | .endWatch => []

theorem step_fst (st : State) (op : Op) :
    (step st op).1 = st.mapIdx (fun j s => stepSub j s op) ++ fresh op := by
  cases op with
  | subscribe i m =>
    exact congrArg (· ++ _) (List.mapIdx_eq_iff.mpr fun k => by simp [stepSub]).symm
  | notify cs =>
    refine (List.append_nil _).symm ▸ ?_
    exact (List.mapIdx_eq_iff.mpr fun k => by simp [step, notify_eq_map, stepSub, deliverSet_eq]).symm
  | drain id n =>
    refine (List.append_nil _).symm ▸ ?_
    refine (List.mapIdx_eq_iff.mpr fun k => ?_).symm
    simp only [step, drain_fst, List.getElem?_modify, stepSub]
    rfl
  | endWatch =>
    refine (List.append_nil _).symm ▸ ?_
    exact (List.mapIdx_eq_iff.mpr fun k => by simp [step, endWatch, stepSub]).symm

theorem step_getElem? {st : State} {j : Nat} {s : Sub} (h : st[j]? = some s) (op : Op) :
    (step st op).1[j]? = some (stepSub j s op) := by
  rw [step_fst, List.getElem?_append_left (by simpa using (List.getElem?_eq_some_iff.mp h).1),
    List.getElem?_mapIdx, h]
  rfl

theorem fresh_eq (op : Op) : ∀ s ∈ fresh op, s.buf = [] ∧ s.closes = 0 := by
  cases op <;> simp [fresh]

theorem length_fresh (op : Op) : (fresh op).length = nsubs [op] := by
  cases op <;> rfl

@[simp] theorem stepSub_iface (j : Nat) (s : Sub) (op : Op) : (stepSub j s op).iface = s.iface := by
  cases op <;> simp only [stepSub, push_iface]
  split <;> rfl

@[simp] theorem stepSub_mask (j : Nat) (s : Sub) (op : Op) : (stepSub j s op).mask = s.mask := by
  cases op <;> simp only [stepSub, push_mask]
  split <;> rfl

theorem subscribe_getElem? (st : State) (i m : Nat) :
    (subscribe st i m)[st.length]? = some { iface := i, mask := m } := by
  simp [subscribe]

theorem finals_drop {st : State} {j : Nat} {s : Sub} (h : st[j]? = some s) :
    (finals st).drop j = { got := s.buf, closed := s.closed } :: (finals st).drop (j + 1) := by
  obtain ⟨hlt, rfl⟩ := List.getElem?_eq_some_iff.mp h
  rw [List.drop_eq_getElem_cons (by simpa [finals] using hlt)]
  simp [finals]

theorem run_cons (st : State) (op : Op) (ops : List Op) :
    run st (op :: ops) = ((run (step st op).1 ops).1, (step st op).2 ++ (run (step st op).1 ops).2) := rfl

theorem run_append (st : State) (a b : List Op) :
    run st (a ++ b) = ((run (run st a).1 b).1, (run st a).2 ++ (run (run st a).1 b).2) := by
  induction a generalizing st with
  | nil => simp [run]
  | cons op a ih => simp only [List.cons_append, run_cons, ih, List.append_assoc]

theorem step_length (st : State) (op : Op) : (step st op).1.length = st.length + nsubs [op] := by
  rw [step_fst, List.length_append, List.length_mapIdx, length_fresh]

/-! ### bounded buffers -/

theorem push_bounded {s : Sub} (l : List Nat) (h : s.buf.length ≤ 8) : (s.push l).buf.length ≤ 8 := by
  rw [push_buf, List.length_append, List.length_take]
  exact Nat.le_trans (Nat.add_le_add_left (Nat.min_le_left _ _) _) (by omega)

theorem stepSub_bounded (j : Nat) {s : Sub} (op : Op) (h : s.buf.length ≤ 8) :
    (stepSub j s op).buf.length ≤ 8 := by
  cases op with
  | subscribe i m => exact h
  | notify cs => exact push_bounded _ h
  | drain id n =>
    rw [stepSub]
    split
    · exact Nat.le_trans (by simp [drainSub]) h
    · exact h
  | endWatch => exact h

def Bounded (st : State) : Prop := ∀ s ∈ st, s.buf.length ≤ 8

theorem step_bounded (st : State) (op : Op) (h : Bounded st) : Bounded (step st op).1 := by
  intro s hs
  rw [step_fst] at hs
  rcases List.mem_append.mp hs with hs | hs
  · obtain ⟨j, hj, rfl⟩ := List.mem_mapIdx.mp hs
    exact stepSub_bounded j op (h _ (List.getElem_mem hj))
  · rw [(fresh_eq op s hs).1]
    exact Nat.zero_le _

theorem run_bounded (st : State) (ops : List Op) (h : Bounded st) : Bounded (run st ops).1 := by
  induction ops generalizing st with
  | nil => exact h
  | cons op ops ih => exact ih _ (step_bounded st op h)

/-! ### close counts -/

theorem stepSub_closes (j : Nat) (s : Sub) (op : Op) :
    (stepSub j s op).closes = s.closes + if op = .endWatch then 1 else 0 := by
  cases op with
  | drain id n => rw [stepSub]; split <;> rfl
  | _ => rfl

theorem closesOf_step (st : State) (op : Op) :
    closesOf (step st op).1 =
      (closesOf st).map (· + if op = .endWatch then 1 else 0) ++ List.replicate (nsubs [op]) 0 := by
  rw [step_fst, closesOf, closesOf, List.map_append, List.map_map]
  congr 1
  · refine List.ext_getElem? fun k => ?_
    rw [List.getElem?_map, List.getElem?_map, List.getElem?_mapIdx]
    cases st[k]? <;> simp [stepSub_closes]
  · rw [← length_fresh, ← List.length_map (f := (·.closes))]
    exact List.eq_replicate_iff.mpr ⟨rfl, fun c hc => by
      obtain ⟨s, hs, rfl⟩ := List.mem_map.mp hc; exact (fresh_eq op s hs).2⟩

theorem closesOf_run_of_no_end (st : State) (ops : List Op) (h : Op.endWatch ∉ ops) :
    closesOf (run st ops).1 = closesOf st ++ List.replicate (nsubs ops) 0 := by
  induction ops generalizing st with
  | nil => simp [run, nsubs]
  | cons op ops ih =>
    have hop : op ≠ .endWatch := fun e => h (e ▸ List.mem_cons_self)
    rw [run_cons, ih _ (fun e => h (List.mem_cons_of_mem _ e)), closesOf_step, if_neg hop,
      List.append_assoc, List.replicate_append_replicate]
    cases op <;> simp [nsubs, Nat.add_comm]

/-! ### one subscriber along a run: what it receives -/

theorem bufAt_of {st : State} {j : Nat} {s : Sub} (h : st[j]? = some s) : bufAt j st = s.buf := by
  simp [bufAt, h]

theorem offered_cons (i m : Nat) (op : Op) (ops : List Op) :
    offered i m (op :: ops) = offered i m [op] ++ offered i m ops := by
  cases op <;> simp [offered]

theorem offered_notify (i m : Nat) (cs : List (Nat × List Nat)) :
    offered i m [.notify cs] = offeredSet i m cs :=
  List.append_nil _

theorem receivedBy_run_cons (j : Nat) (st : State) (op : Op) (ops : List Op) :
    receivedBy j (op :: ops) (run st (op :: ops)).2 =
      receivedBy j [op] (step st op).2 ++ receivedBy j ops (run (step st op).1 ops).2 := by
  cases op <;> simp [run_cons, step, receivedBy]

/-- One operation, seen from subscriber `j`: what it hands out, then what it leaves, is what
    was there, then the offered changes that fitted. -/
theorem step_ledger {st : State} {j : Nat} {s : Sub} (h : st[j]? = some s) (op : Op) :
    receivedBy j [op] (step st op).2 ++ (stepSub j s op).buf =
      (s.push (offered s.iface s.mask [op])).buf := by
  cases op with
  | subscribe i m => exact congrArg Sub.buf (push_nil s).symm
  | notify cs => rw [offered_notify]; rfl
  | drain id n =>
    rw [show offered s.iface s.mask [.drain id n] = [] from rfl, push_nil]
    by_cases hid : id = j
    · subst hid; simp [receivedBy, step, stepSub, drain_snd h, drainSub]
    · simp [receivedBy, step, stepSub, hid]
  | endWatch => exact (congrArg Sub.buf (push_nil s)).symm

/-- The ledger of a run from the ledger of its tail; `x` is what the tail adds to the buffer. -/
theorem ledger_cons {st : State} {j : Nat} {s : Sub} (h : st[j]? = some s) (op : Op) {ops : List Op}
    {b x : List Nat}
    (ih : receivedBy j ops (run (step st op).1 ops).2 ++ b = (stepSub j s op).buf ++ x) :
    receivedBy j (op :: ops) (run st (op :: ops)).2 ++ b =
      (s.push (offered s.iface s.mask [op])).buf ++ x := by
  rw [receivedBy_run_cons, List.append_assoc, ih, ← List.append_assoc, step_ledger h]

theorem sub_track (j : Nat) (ops : List Op) : ∀ (st : State) (s : Sub), st[j]? = some s →
    ∃ l, l.Sublist (offered s.iface s.mask ops) ∧
      receivedBy j ops (run st ops).2 ++ bufAt j (run st ops).1 = s.buf ++ l := by
  induction ops with
  | nil =>
    intro st s h
    exact ⟨[], List.Sublist.refl _, by simp [receivedBy, show bufAt j (run st []).1 = s.buf from bufAt_of h]⟩
  | cons op ops ih =>
    intro st s h
    obtain ⟨l, hl, heq⟩ := ih _ _ (step_getElem? h op)
    rw [stepSub_iface, stepSub_mask] at hl
    refine ⟨(offered s.iface s.mask [op]).take (8 - s.buf.length) ++ l, ?_, ?_⟩
    · rw [offered_cons _ _ op ops]; exact (List.take_sublist _ _).append hl
    exact (ledger_cons h op heq).trans (by rw [push_buf, List.append_assoc])

theorem sub_track_all (j : Nat) (ops : List Op) : ∀ (st : State) (s : Sub), st[j]? = some s →
    s.buf.length + (offered s.iface s.mask ops).length ≤ 8 →
    receivedBy j ops (run st ops).2 ++ bufAt j (run st ops).1 = s.buf ++ offered s.iface s.mask ops := by
  induction ops with
  | nil => intro st s h _; simp [receivedBy, offered, show bufAt j (run st []).1 = s.buf from bufAt_of h]
  | cons op ops ih =>
    intro st s h hroom
    rw [offered_cons _ _ op ops, List.length_append] at hroom
    have hfit := push_buf_of_fits (s := s) (l := offered s.iface s.mask [op]) (by omega)
    have hlen := congrArg List.length ((step_ledger h op).trans hfit)
    simp only [List.length_append] at hlen
    have heq := ih _ _ (step_getElem? h op) (by rw [stepSub_iface, stepSub_mask]; omega)
    rw [stepSub_iface, stepSub_mask] at heq
    exact (ledger_cons h op heq).trans (by rw [hfit, offered_cons _ _ op ops, List.append_assoc])

theorem sub_track_exact (j : Nat) (ops : List Op) : ∀ (st : State) (s : Sub), st[j]? = some s →
    (∀ pre post, ops = pre ++ post → (bufAt j (run st pre).1).length < 8) →
    receivedBy j ops (run st ops).2 ++ bufAt j (run st ops).1 = s.buf ++ offered s.iface s.mask ops := by
  induction ops with
  | nil => intro st s h _; simp [receivedBy, offered, show bufAt j (run st []).1 = s.buf from bufAt_of h]
  | cons op ops ih =>
    intro st s h hroom
    have h1 := step_getElem? h op
    have heq := ih _ _ h1 fun pre post e => hroom (op :: pre) post (by rw [e]; rfl)
    have hnow : (stepSub j s op).buf.length < 8 := bufAt_of h1 ▸ hroom [op] ops rfl
    rw [stepSub_iface, stepSub_mask] at heq
    have hfit : (s.push (offered s.iface s.mask [op])).buf = s.buf ++ offered s.iface s.mask [op] := by
      -- a `drain` is offered nothing; the other operations hand nothing out, so the left side of
      -- their ledger is the buffer they leave, which has room
      cases op with
      | drain id n => exact (congrArg Sub.buf (push_nil s)).trans (List.append_nil _).symm
      | _ => exact push_buf_of_room (step_ledger h _ ▸ hnow)
    exact (ledger_cons h op heq).trans (by rw [hfit, offered_cons _ _ op ops, List.append_assoc])

/-! ### one subscriber along a run: the oracle's counters -/

/-- the oracle's counters agree with the subscriber's channel -/
def Inv (a : Acc) (s : Sub) : Prop :=
  a.ok = true ∧ a.pend = s.buf.length ∧ a.closed = s.closed ∧ a.accepted = a.received ++ s.buf

theorem inv_push (l : List Nat) : ∀ (a : Acc) (s : Sub), Inv a s →
    Inv ((l.map Ev.offer).foldl stepEv a) (s.push l) := by
  induction l with
  | nil => intro a s h; rwa [push_nil]
  | cons c l ih =>
    intro a s ⟨hok, hp, hc, hacc⟩
    rw [← List.singleton_append, ← push_push, push_singleton]
    refine ih _ _ ?_
    show Inv (if a.pend < 8 then _ else a) _
    rw [hp]
    split
    · exact ⟨hok, by simp, hc, by simp [hacc]⟩
    · exact ⟨hok, hp, hc, hacc⟩

theorem inv_drain (n : Nat) {a : Acc} {s : Sub} (h : Inv a s) :
    Inv (stepEv a (.take n (drainSub n s).2)) (drainSub n s).1 := by
  obtain ⟨hok, hp, hcl, hacc⟩ := h
  refine ⟨?_, ?_, hcl, ?_⟩
  · simp [stepEv, drainSub, hok, hp, hcl, List.length_take]
  · simp only [stepEv, drainSub, hp, List.length_take, List.length_drop, Nat.min_comm n, sub_min_self]
  · simp [stepEv, drainSub, hacc]

theorem inv_close {a : Acc} {s : Sub} (h : Inv a s) (hc : s.closes = 0) :
    Inv (stepEv a .close) { s with closes := s.closes + 1 } := by
  obtain ⟨hok, hp, hcl, hacc⟩ := h
  have : a.closed = false := by rw [hcl]; simp [Sub.closed, hc]
  exact ⟨by simp [stepEv, hok, this], hp, by simp [stepEv, Sub.closed], hacc⟩

theorem view_run_cons (j i m : Nat) (st : State) (op : Op) (ops : List Op) :
    view j i m (op :: ops) (run st (op :: ops)).2 =
      view j i m [op] (step st op).2 ++ view j i m ops (run (step st op).1 ops).2 := by
  cases op <;> simp [run_cons, step, view]

theorem wf_cons (e : Bool) (op : Op) (ops : List Op) :
    wf e (op :: ops) = (wf e [op] && wf (e || decide (op = .endWatch)) ops) := by
  cases op <;> cases e <;> rfl

theorem inv_step {st : State} {j : Nat} {s : Sub} (h : st[j]? = some s) (op : Op) {a : Acc} {e : Bool}
    (hinv : Inv a s) (hwf : wf e [op] = true) (hc : e = false → s.closes = 0) :
    Inv ((view j s.iface s.mask [op] (step st op).2).foldl stepEv a) (stepSub j s op) := by
  cases op with
  | subscribe i m => exact hinv
  | notify cs =>
    simpa [view, stepSub, offeredSet, List.map_flatMap] using inv_push (offeredSet s.iface s.mask cs) a s hinv
  | drain id n =>
    by_cases hid : id = j
    · subst hid; simpa [view, step, stepSub, drain_snd h] using inv_drain n hinv
    · simpa [view, step, stepSub, hid] using hinv
  | endWatch =>
    have : e = false := by simpa [wf] using hwf
    exact inv_close hinv (hc this)

theorem sub_inv (j : Nat) (ops : List Op) : ∀ (st : State) (s : Sub) (a : Acc) (e : Bool),
    st[j]? = some s → Inv a s → wf e ops = true → (e = false → s.closes = 0) →
    ∃ s', (run st ops).1[j]? = some s' ∧
      Inv ((view j s.iface s.mask ops (run st ops).2).foldl stepEv a) s' := by
  induction ops with
  | nil => intro st s a e h hinv _ _; exact ⟨s, h, hinv⟩
  | cons op ops ih =>
    intro st s a e h hinv hwf hc
    rw [wf_cons, Bool.and_eq_true] at hwf
    rw [view_run_cons, List.foldl_append]
    have := ih _ _ _ _ (step_getElem? h op) (inv_step h op hinv hwf.1 hc) hwf.2 (by
      intro he
      rw [Bool.or_eq_false_iff, decide_eq_false_iff_not] at he
      rw [stepSub_closes, if_neg he.2, hc he.1])
    rwa [stepSub_iface, stepSub_mask] at this

end Corerad.Model.Watcher
