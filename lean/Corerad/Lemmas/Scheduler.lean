/-
  The equations of `Model.schedule` (Model/Scheduler.lean), one per kind of request, and of the two
  projections `mcSends` / `ucSends` of its output.  A multicast request is dropped (unicast-only
  mode), coalesced into the pending transmission (`t < s.next`), or scheduled for
  `max t (s.next + minDelay)`, which becomes the new `next` (DESIGN Appendix C).
-/
import Corerad.Model.Scheduler

namespace Corerad.Model

open Corerad

@[simp] theorem mcSends_nil : mcSends [] = [] := rfl
@[simp] theorem ucSends_nil : ucSends [] = [] := rfl

theorem mcSends_cons (x : Send) (l : List Send) :
    mcSends (x :: l) = if x.mc then x.t :: mcSends l else mcSends l := by
  unfold mcSends; rw [List.filter_cons]; split <;> rfl

theorem ucSends_cons (x : Send) (l : List Send) :
    ucSends (x :: l) = if x.mc then ucSends l else (x.t, x.host) :: ucSends l := by
  unfold ucSends; rw [List.filter_cons]; cases x.mc <;> rfl

@[simp] theorem schedule_nil (md : Dur) (uo : Bool) (s : SchedState) (draws : List Int) :
    schedule md uo s [] draws = [] := by
  simp [schedule]

theorem schedule_uc (md : Dur) (uo : Bool) (s : SchedState) (t : Time) (h : Nat)
    (rest : List (Time × Req)) (draws : List Int) :
    schedule md uo s ((t, .uc h) :: rest) draws =
      { t := t + draws.headD 0, mc := false, host := h } :: schedule md uo s rest draws.tail := by
  simp [schedule]

theorem schedStep_mc (md : Dur) (uo : Bool) (s : SchedState) (t : Time) :
    schedStep md uo s t .mc 0 =
      if uo = true ∨ t < s.next then (s, none)
      else ({ next := max t (s.next + md) }, some { t := max t (s.next + md), mc := true }) := by
  have hmax : (if s.next + md < t then t else s.next + md) = max t (s.next + md) := by omega
  simp only [schedStep, gt_iff_lt, hmax]
  cases uo <;> simp

theorem schedule_mc (md : Dur) (uo : Bool) (s : SchedState) (t : Time)
    (rest : List (Time × Req)) (draws : List Int) :
    schedule md uo s ((t, .mc) :: rest) draws =
      if uo = true ∨ t < s.next then schedule md uo s rest draws
      else { t := max t (s.next + md), mc := true } ::
        schedule md uo { next := max t (s.next + md) } rest draws := by
  rw [schedule, schedStep_mc]
  by_cases hc : uo = true ∨ t < s.next
  · rw [if_pos hc, if_pos hc]
  · rw [if_neg hc, if_neg hc]

@[simp] theorem mcSends_schedule_uc (md : Dur) (uo : Bool) (s : SchedState) (t : Time) (h : Nat)
    (rest : List (Time × Req)) (draws : List Int) :
    mcSends (schedule md uo s ((t, .uc h) :: rest) draws) = mcSends (schedule md uo s rest draws.tail) := by
  rw [schedule_uc, mcSends_cons]; rfl

@[simp] theorem ucSends_schedule_uc (md : Dur) (uo : Bool) (s : SchedState) (t : Time) (h : Nat)
    (rest : List (Time × Req)) (draws : List Int) :
    ucSends (schedule md uo s ((t, .uc h) :: rest) draws) =
      (t + draws.headD 0, h) :: ucSends (schedule md uo s rest draws.tail) := by
  rw [schedule_uc, ucSends_cons]; rfl

theorem mcSends_schedule_mc (md : Dur) (uo : Bool) (s : SchedState) (t : Time)
    (rest : List (Time × Req)) (draws : List Int) :
    mcSends (schedule md uo s ((t, .mc) :: rest) draws) =
      if uo = true ∨ t < s.next then mcSends (schedule md uo s rest draws)
      else max t (s.next + md) :: mcSends (schedule md uo { next := max t (s.next + md) } rest draws) := by
  rw [schedule_mc]; split <;> simp [mcSends_cons]

theorem ucSends_schedule_mc (md : Dur) (uo : Bool) (s : SchedState) (t : Time)
    (rest : List (Time × Req)) (draws : List Int) :
    ∃ s', ucSends (schedule md uo s ((t, .mc) :: rest) draws) = ucSends (schedule md uo s' rest draws) := by
  rw [schedule_mc]; split
  · exact ⟨s, rfl⟩
  · exact ⟨{ next := max t (s.next + md) }, by simp [ucSends_cons]⟩

theorem mcSends_schedule_unicastOnly (md : Dur) :
    ∀ (reqs : List (Time × Req)) (s : SchedState) (draws : List Int),
      mcSends (schedule md true s reqs draws) = []
  | [], _, _ => by rw [schedule_nil, mcSends_nil]
  | (_, .uc _) :: rest, s, draws => by
    rw [mcSends_schedule_uc]; exact mcSends_schedule_unicastOnly md rest s draws.tail
  | (_, .mc) :: rest, s, draws => by
    rw [mcSends_schedule_mc, if_pos (Or.inl rfl)]; exact mcSends_schedule_unicastOnly md rest s draws

end Corerad.Model
