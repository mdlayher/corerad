/-
  Helper lemmas for C02 (`Props/C02.lean`): the refinement of the procedural configuration
  parser (`Model/Config.lean`) to the declarative specification (`Spec/C02.lean`).
  Input well-formedness, the elementary parsers against their documented readings, the `rdnss`
  server loop, `mapM'`/`anyPair`/`pairwiseNot`, the split of `docAdvertising` into its scalar and
  plugin conjuncts, and what a documented stanza consists of.
-/
import Corerad.Spec.C02
import Corerad.Lemmas.Accept
import Corerad.Lemmas.Addr
import Corerad.Lemmas.ListUtil

namespace Corerad.Props.C02

open Corerad.Model Corerad.Spec.C02

/-- input well-formedness: a successfully parsed `netip.Prefix` has at most 128 bits -/
def wfPfx : PfxStr → Bool
  | .ok p => decide (p.bits ≤ 128)
  | _ => true

theorem parseDuration_eq (s : DurStr) (d : Dur) : parseDuration s d = resolve s d := by
  cases s <;> rfl

theorem parsePreference_eq (c : Nat) : parsePreference c = prefCode c :=
  match c with
  | 0 | 1 | 2 | 3 => rfl
  | _ + 4 => rfl

theorem parseIPPrefix_ok (p : Prefix) : parseIPPrefix (.ok p) = if canonical6 p then some p else none := by
  simp only [parseIPPrefix, canonical6, Accept.reject_else, Accept.then_then, ne_eq, decide_not, Bool.not_not,
    Bool.decide_eq_true, Bool.not_or, Bool.and_assoc]
  rfl

/-- the three outcomes of `parseIPPrefix` followed by the wildcard substitution, against `pfxOf` -/
theorem pfx_cases (wild : Prefix) (hw6 : wild.addr.is6 = true) (hwb : wild.bits ≤ 128)
    (s : PfxStr) (hwf : wfPfx s = true) :
    (parseIPPrefix s = none ∧ pfxOf wild s = none) ∨
    ∃ p0 q, parseIPPrefix s = some p0 ∧ (if (!p0.isValid) = true then wild else p0) = q ∧
      pfxOf wild s = some q ∧ q.addr.is6 = true ∧ q.bits ≤ 128 := by
  cases s with
  | empty => exact .inr ⟨Prefix.zero, wild, rfl, rfl, rfl, hw6, hwb⟩
  | bad => exact .inl ⟨rfl, rfl⟩
  | ok p =>
    simp only [wfPfx, decide_eq_true_eq] at hwf
    rw [parseIPPrefix_ok]
    simp only [pfxOf]
    by_cases hc : canonical6 p = true
    · have h6 : p.addr.is6 = true := by
        simp only [canonical6, Bool.and_eq_true] at hc; exact hc.1.2
      rw [if_pos hc]
      exact .inr ⟨p, p, rfl, by simp [Prefix.isValid_of_is6 h6 hwf], rfl, h6, hwf⟩
    · rw [if_neg hc]
      exact .inl ⟨rfl, rfl⟩

theorem pfxOf_eq_some_iff (wild : Prefix) (s : PfxStr) (q : Prefix) :
    pfxOf wild s = some q ↔ (s = .empty ∧ q = wild) ∨ (s = .ok q ∧ canonical6 q = true) := by
  cases s with
  | empty => simp only [pfxOf, Option.some.injEq, true_and, reduceCtorEq, false_and, or_false]; exact eq_comm
  | bad => simp [pfxOf]
  | ok p =>
    simp only [pfxOf, reduceCtorEq, false_and, false_or, PfxStr.ok.injEq]
    by_cases hc : canonical6 p = true
    · rw [if_pos hc, Option.some.injEq]; exact ⟨fun h => h ▸ ⟨rfl, hc⟩, fun h => h.1⟩
    · rw [if_neg hc]; exact ⟨nofun, fun h => absurd (h.1 ▸ h.2) hc⟩

theorem isWild_iff {wild q : Prefix} {s : PfxStr} (hq : pfxOf wild s = some q) :
    ((pfxOf wild s).getD wild == wild) = true ↔ (s = .empty ∨ s = .ok wild) := by
  rw [hq, Option.getD_some, beq_iff_eq]
  rcases (pfxOf_eq_some_iff wild s q).mp hq with ⟨rfl, rfl⟩ | ⟨rfl, -⟩ <;> simp

theorem prefCode_wire (c pc : Nat) (h : prefCode c = some pc) : (pc == 0 || pc == 1 || pc == 3) = true := by
  unfold prefCode at h
  split at h <;> cases h <;> rfl

theorem inPos_iff (d : Dur) : inPos d = true ↔ 0 < d ∧ d ≤ maxLifetime := by
  simp only [inPos, Bool.and_eq_true, decide_eq_true_eq]

theorem inPos_eq (d : Dur) : inPos d = (!decide (d = 0) && lifetimeInRange d) := by
  unfold inPos lifetimeInRange
  rw [show infinity = maxLifetime from rfl, Bool.eq_iff_iff]
  simp only [Bool.and_eq_true, Bool.not_eq_true', decide_eq_true_eq, decide_eq_false_iff_not]
  omega

theorem within_eq (lo hi : Dur) (o : Option Dur) :
    within lo hi o = (o.isSome && (decide (lo ≤ o.getD 0) && decide (o.getD 0 ≤ hi))) := by
  cases o <;> rfl

/-- the static (non-wildcard) servers of an `rdnss` stanza, in input order -/
def staticServers (l : List AddrStr) : List IP := (l.map serverAddr).filter (fun a => !a.isUnspecified)

/-- the `::` wildcard entries -/
def wildServers (l : List AddrStr) : List IP := (l.map serverAddr).filter (·.isUnspecified)

theorem staticServers_ok (ip : IP) (rest : List AddrStr) :
    staticServers (.ok ip :: rest) = if ip.isUnspecified then staticServers rest else ip :: staticServers rest := by
  unfold staticServers
  cases h : ip.isUnspecified <;> simp [serverAddr, h]

theorem wildServers_ok (ip : IP) (rest : List AddrStr) :
    wildServers (.ok ip :: rest) = if ip.isUnspecified then ip :: wildServers rest else wildServers rest := by
  unfold wildServers
  cases h : ip.isUnspecified <;> simp [serverAddr, h]

theorem all_not_contains_snoc (l acc : List IP) (ip : IP) :
    l.all (fun x => !(acc ++ [ip]).contains x) = (l.all (fun x => !acc.contains x) && !l.contains ip) := by
  rw [Bool.eq_iff_iff]
  simp only [List.all_eq_true, Bool.and_eq_true, Bool.not_eq_true', List.contains_eq_mem,
    decide_eq_false_iff_not, List.mem_append, List.mem_singleton]
  constructor
  · intro h; exact ⟨fun x hx hm => h x hx (Or.inl hm), fun hm => h ip hm (Or.inr rfl)⟩
  · rintro ⟨h1, h2⟩ x hx (hm | rfl)
    · exact h1 x hx hm
    · exact h2 hx

/-- The server loop from any of its states: `auto` counts as a wildcard already seen, `acc` are the
    static servers seen so far. -/
theorem parseServers_eq (l : List AddrStr) (auto : Bool) (acc : List IP) :
    parseServers l auto acc =
      if l.all serverOk && decide ((wildServers l).length + (if auto then 1 else 0) ≤ 1) &&
          nodupIP (staticServers l) && (staticServers l).all (fun x => !acc.contains x)
      then some (auto || (l.map serverAddr).any (·.isUnspecified), acc ++ staticServers l) else none := by
  induction l generalizing auto acc with
  | nil => cases auto <;> simp [parseServers, wildServers, staticServers, nodupIP]
  | cons a rest ih =>
    cases a with
    | bad => simp [parseServers, serverOk]
    | ok ip =>
      simp only [parseServers, staticServers_ok, wildServers_ok, List.all_cons, List.map_cons, List.any_cons,
        serverAddr]
      rw [show (!ip.is6 || ip.is4In6) = !serverOk (.ok ip) by simp [serverOk]]
      cases serverOk (.ok ip) with
      | false => simp
      | true =>
        cases hu : ip.isUnspecified with
        | true =>
          cases auto with
          | true => simp
          | false => simp [ih]
        | false =>
          cases hc : acc.contains ip with
          | true => simp only [List.contains_eq_mem, decide_eq_true_eq] at hc; simp [hc]
          | false =>
            simp only [Bool.not_true, Bool.false_eq_true, if_false, ih, all_not_contains_snoc, nodupIP, List.all_cons,
              hc, Bool.not_false, Bool.true_and, Bool.false_or, List.append_assoc, List.singleton_append]
            -- the same tests: `ip ∉ staticServers rest` stands with `nodupIP` on one side, with `acc` on the other
            congr 2
            ac_rfl

theorem hasDup_eq (l : List Nat) : hasDup l = !nodupNat l := by
  induction l with
  | nil => rfl
  | cons x xs ih => simp only [hasDup, nodupNat, ih, Bool.not_and, Bool.not_not]

theorem mapM'_eq {α β : Type} {f : α → Option β} {d : α → Bool} {e : α → β} (l : List α)
    (h : ∀ x ∈ l, f x = if d x then some (e x) else none) :
    mapM' f l = if l.all d then some (l.map e) else none := by
  induction l with
  | nil => rfl
  | cons x xs ih =>
    have hx := h x List.mem_cons_self
    have ih' := ih (fun y hy => h y (List.mem_cons_of_mem _ hy))
    simp only [mapM', hx, ih', List.all_cons, List.map_cons]
    cases d x <;> cases xs.all d <;> rfl

theorem mapM'_all {α β : Type} {f : α → Option β} {P : β → Bool} (hf : ∀ a b, f a = some b → P b = true) (l : List α) :
    ((mapM' f l).getD []).all P = true := by
  induction l with
  | nil => rfl
  | cons a l ih =>
    unfold mapM'
    cases ha : f a with
    | none => rfl
    | some b =>
      cases hl : mapM' f l with
      | none => rfl
      | some bs => rw [hl] at ih; exact Bool.and_eq_true_iff.mpr ⟨hf a b ha, ih⟩

theorem anyPair_eq {α : Type} (bad : α → α → Bool) (l : List α) :
    anyPair bad l = !pairwiseNot bad l := by
  induction l with
  | nil => rfl
  | cons x xs ih =>
    simp only [anyPair, pairwiseNot, ih, Bool.not_and, List.any_eq_not_all_not, Bool.not_or]

theorem pairwiseNot_map {α β : Type} (e : α → β) (bad : β → β → Bool) (bad' : α → α → Bool) (l : List α)
    (h : ∀ a ∈ l, ∀ b ∈ l, bad (e a) (e b) = bad' a b) :
    pairwiseNot bad (l.map e) = pairwiseNot bad' l := by
  induction l with
  | nil => rfl
  | cons x xs ih =>
    simp only [List.map_cons, pairwiseNot, List.all_map]
    rw [ih (fun a ha b hb => h a (List.mem_cons_of_mem _ ha) b (List.mem_cons_of_mem _ hb))]
    congr 1
    apply all_congr_mem
    intro y hy
    simp only [Function.comp]
    rw [h x List.mem_cons_self y (List.mem_cons_of_mem _ hy), h y (List.mem_cons_of_mem _ hy) x List.mem_cons_self]

def overlapPrefixes (a b : RawPrefix) : Bool :=
  match pfxOf wildPrefix a.pstr, pfxOf wildPrefix b.pstr with
  | some p, some q => p.overlaps q | _, _ => false

def overlapRoutes (a b : RawRoute) : Bool :=
  match pfxOf wildRoute a.pstr, pfxOf wildRoute b.pstr with
  | some p, some q => p != wildRoute && q != wildRoute && p.overlaps q | _, _ => false

/-- the plugin part of `docAdvertising` (the last ten conjuncts), for a given MaxRtrAdvInterval -/
def docPlugins (i : RawInterface) (maxI : Dur) : Bool :=
  i.prefixes.all docPrefix && pairwiseNot overlapPrefixes i.prefixes &&
  i.routes.all docRoute && pairwiseNot overlapRoutes i.routes &&
  i.rdnss.all (docRDNSS maxI) && i.dnssl.all (docDNSSL maxI) &&
  decide (0 ≤ i.mtu) && decide (i.mtu ≤ 65536) &&
  portalOk i.captivePortal &&
  i.pref64.all docPref64

theorem docPlugins_iff (i : RawInterface) (maxI : Dur) :
    docPlugins i maxI = true ↔
      (∀ p ∈ i.prefixes, docPrefix p = true) ∧ pairwiseNot overlapPrefixes i.prefixes = true ∧
      (∀ r ∈ i.routes, docRoute r = true) ∧ pairwiseNot overlapRoutes i.routes = true ∧
      (∀ d ∈ i.rdnss, docRDNSS maxI d = true) ∧ (∀ d ∈ i.dnssl, docDNSSL maxI d = true) ∧
      0 ≤ i.mtu ∧ i.mtu ≤ 65536 ∧ portalOk i.captivePortal = true ∧ ∀ p ∈ i.pref64, docPref64 p = true := by
  simp only [docPlugins, Bool.and_eq_true, List.all_eq_true, decide_eq_true_eq, and_assoc]

/-- the scalar part of `docAdvertising` (the first eight conjuncts) -/
def docScalars (i : RawInterface) (maxI : Dur) : Bool :=
  decide (4 * second ≤ maxI) && decide (maxI ≤ 1800 * second) &&
  (minOf i.minInterval maxI).isSome &&
  within 0 hour (plainDur i.reachable 0) && within 0 hour (plainDur i.retransmit 0) &&
  (match i.hopLimit with | none => true | some h => decide (0 ≤ h) && decide (h ≤ 255)) &&
  (lifetimeOf i.defaultLifetime maxI).isSome &&
  (prefCode i.preference).isSome

theorem docScalars_iff (i : RawInterface) (maxI : Dur) :
    docScalars i maxI = true ↔
      4 * second ≤ maxI ∧ maxI ≤ 1800 * second ∧ (minOf i.minInterval maxI).isSome = true ∧
      within 0 hour (plainDur i.reachable 0) = true ∧ within 0 hour (plainDur i.retransmit 0) = true ∧
      (0 ≤ i.hopLimit.getD 64 ∧ i.hopLimit.getD 64 ≤ 255) ∧
      (lifetimeOf i.defaultLifetime maxI).isSome = true ∧ (prefCode i.preference).isSome = true := by
  unfold docScalars
  cases i.hopLimit with
  | none => simp only [Bool.and_eq_true, decide_eq_true_eq, and_assoc, Option.getD_none, Int.reduceLE, true_and]
  | some h => simp only [Bool.and_eq_true, decide_eq_true_eq, and_assoc, Option.getD_some]

/-- input well-formedness of a stanza: every successfully parsed prefix has at most 128 bits -/
def wfIface (i : RawInterface) : Bool :=
  i.prefixes.all (fun p => wfPfx p.pstr) && i.routes.all (fun r => wfPfx r.pstr)

theorem wfIface_iff (i : RawInterface) :
    wfIface i = true ↔ (∀ p ∈ i.prefixes, wfPfx p.pstr = true) ∧ ∀ r ∈ i.routes, wfPfx r.pstr = true := by
  simp only [wfIface, Bool.and_eq_true, List.all_eq_true]

theorem docPrefix_parts (p : RawPrefix) (h : docPrefix p = true) :
    ∃ q v pr, pfxOf wildPrefix p.pstr = some q ∧ resolve p.valid (24 * hour) = some v ∧
      resolve p.preferred (4 * hour) = some pr ∧
      q.bits ≠ 128 ∧ (q.addr.isUnspecified = true → q.bits = 64) ∧ inPos v = true ∧ inPos pr = true ∧
      pr ≤ v ∧ (p.deprecated = true → v ≠ maxLifetime ∧ pr ≠ maxLifetime) := by
  unfold docPrefix at h
  split at h
  · rename_i q v pr hq hv hpr
    refine ⟨q, v, pr, hq, hv, hpr, ?_⟩
    simpa only [Bool.and_eq_true, Bool.or_eq_true, Bool.not_eq_true', beq_iff_eq, decide_eq_true_eq,
      bne_iff_ne, ne_eq, and_assoc, ← Bool.not_eq_true, ← Decidable.imp_iff_not_or] using h
  · cases h

theorem docRoute_parts (r : RawRoute) (h : docRoute r = true) :
    ∃ q l pc, pfxOf wildRoute r.pstr = some q ∧ resolve r.lifetime (24 * hour) = some l ∧
      prefCode r.preference = some pc ∧
      (q.addr.isUnspecified = true → q.bits = 0) ∧ inPos l = true ∧
      (r.deprecated = true → l ≠ maxLifetime) := by
  unfold docRoute at h
  split at h
  · rename_i q l pc hq hl hpc
    refine ⟨q, l, pc, hq, hl, hpc, ?_⟩
    simpa only [Bool.and_eq_true, Bool.or_eq_true, Bool.not_eq_true', beq_iff_eq,
      bne_iff_ne, ne_eq, and_assoc, ← Bool.not_eq_true, ← Decidable.imp_iff_not_or] using h
  · cases h

theorem docRDNSS_parts (maxI : Dur) (d : RawRDNSS) (h : docRDNSS maxI d = true) :
    ∃ l, resolve d.lifetime (3 * maxI) = some l ∧ inNonneg l = true ∧ d.servers.all serverOk = true ∧
      (wildServers d.servers).length ≤ 1 ∧ nodupIP (staticServers d.servers) = true := by
  unfold docRDNSS at h
  split at h
  · cases h
  · rename_i l hl
    refine ⟨l, hl, ?_⟩
    simpa only [Bool.and_eq_true, decide_eq_true_eq, and_assoc, wildServers, staticServers] using h

theorem docDNSSL_parts (maxI : Dur) (d : RawDNSSL) (h : docDNSSL maxI d = true) :
    ∃ l, resolve d.lifetime (3 * maxI) = some l ∧ inNonneg l = true ∧ (!d.names.isEmpty) = true ∧
      (!d.names.contains 0) = true ∧ nodupNat d.names = true := by
  unfold docDNSSL at h
  split at h
  · cases h
  · rename_i l hl
    refine ⟨l, hl, ?_⟩
    simpa only [Bool.and_eq_true, and_assoc] using h

/-- on documented stanzas the model's overlap test (on the resolved plugins) is the documented one -/
theorem overlap_prefixes (l : List RawPrefix) (h : l.all docPrefix = true) :
    anyPair (fun a b => (pluginPrefixOf a).overlaps (pluginPrefixOf b)) (l.map expPrefix)
      = !pairwiseNot overlapPrefixes l := by
  rw [List.all_eq_true] at h
  rw [anyPair_eq, pairwiseNot_map expPrefix _ overlapPrefixes]
  intro a ha b hb
  obtain ⟨qa, _, _, hqa, _⟩ := docPrefix_parts a (h a ha)
  obtain ⟨qb, _, _, hqb, _⟩ := docPrefix_parts b (h b hb)
  simp only [overlapPrefixes, expPrefix, pluginPrefixOf, hqa, hqb, Option.getD_some]

theorem overlap_routes (l : List RawRoute) (h : l.all docRoute = true) :
    anyPair (fun a b => pluginPrefixOf a != autoRoute && pluginPrefixOf b != autoRoute &&
                      (pluginPrefixOf a).overlaps (pluginPrefixOf b)) (l.map expRoute)
      = !pairwiseNot overlapRoutes l := by
  rw [List.all_eq_true] at h
  rw [anyPair_eq, pairwiseNot_map expRoute _ overlapRoutes]
  intro a ha b hb
  obtain ⟨qa, _, _, hqa, _⟩ := docRoute_parts a (h a ha)
  obtain ⟨qb, _, _, hqb, _⟩ := docRoute_parts b (h b hb)
  simp only [overlapRoutes, expRoute, pluginPrefixOf, hqa, hqb, Option.getD_some,
    show autoRoute = wildRoute from rfl]

theorem minOf_cases (s : DurStr) (maxI m : Dur) (h : minOf s maxI = some m) :
    m = minDefault maxI ∨ (3 * second ≤ m ∧ m ≤ minUpper maxI) := by
  cases s with
  | lit d =>
    simp only [minOf] at h
    split at h
    · rename_i hc; cases h; exact .inr hc
    · cases h
  | empty | auto | unset => cases h; exact .inl rfl
  | infinite | bad => cases h

end Corerad.Props.C02
