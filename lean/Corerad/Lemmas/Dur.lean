/-
  Go's `Duration.Truncate` and `Duration.Round` (Basic.lean) and rounding up, for a variable positive
  unit `m`: each picks a multiple of `m` next to `d`, and of two multiples of `m` the one that is less
  than `m` above the other is not above it (`le_of_multiples`).  Users put the unit in (`second_pos`,
  `ms_pos`) at the last step.
-/
import Corerad.Basic

namespace Corerad

theorem second_pos : 0 < second := by decide
theorem ms_pos : 0 < ms := by decide
theorem sec8_pos : 0 < 8 * second := by decide

theorem goMod_of_nonneg {a : Int} (b : Int) (h : 0 ≤ a) : goMod a b = a % b :=
  Int.tmod_eq_emod_of_nonneg h

theorem le_of_multiples {x y m : Int} (hx : x % m = 0) (hy : y % m = 0) (h : x < y + m) : x ≤ y := by
  have hd : m ∣ x - y := Int.dvd_sub (Int.dvd_of_emod_eq_zero hx) (Int.dvd_of_emod_eq_zero hy)
  apply Int.not_lt.mp
  intro hlt
  have := Int.le_of_dvd (by omega) hd
  omega

theorem sub_emod_eq_mul_ediv (d m : Int) : d - d % m = m * (d / m) := by
  have := Int.emod_add_mul_ediv d m
  omega

theorem sub_emod_spec (d : Int) {m : Int} (hm : 0 < m) :
    (d - d % m) % m = 0 ∧ d - d % m ≤ d ∧ d < d - d % m + m := by
  have h1 := Int.emod_nonneg d (Int.ne_of_gt hm)
  have h2 := Int.emod_lt_of_pos d hm
  refine ⟨?_, by omega, by omega⟩
  rw [sub_emod_eq_mul_ediv]
  exact Int.mul_emod_right ..

theorem sub_emod_nonneg {d m : Int} (hm : 0 < m) (hd : 0 ≤ d) : 0 ≤ d - d % m := by
  rw [sub_emod_eq_mul_ediv]
  exact Int.mul_nonneg (Int.le_of_lt hm) (Int.ediv_nonneg hd (Int.le_of_lt hm))

theorem sub_emod_ediv {m : Int} (hm : 0 < m) (d : Int) : (d - d % m) / m = d / m := by
  rw [sub_emod_eq_mul_ediv]
  exact Int.mul_ediv_cancel_left _ (Int.ne_of_gt hm)

theorem truncateDur_of_nonneg {d m : Dur} (hm : 0 < m) (hd : 0 ≤ d) : truncateDur d m = d - d % m := by
  simp only [truncateDur, Int.not_le.mpr hm, if_false, goMod_of_nonneg m hd]

theorem truncateDur_spec {d m : Dur} (hm : 0 < m) (hd : 0 ≤ d) :
    truncateDur d m % m = 0 ∧ truncateDur d m ≤ d ∧ d < truncateDur d m + m := by
  rw [truncateDur_of_nonneg hm hd]
  exact sub_emod_spec d hm

theorem truncateDur_sub_emod {d m : Dur} (hm : 0 < m) (hd : 0 ≤ d) :
    truncateDur (d - d % m) m = truncateDur d m := by
  rw [truncateDur_of_nonneg hm (sub_emod_nonneg hm hd), truncateDur_of_nonneg hm hd,
    (sub_emod_spec d hm).1, Int.sub_zero]

theorem roundDur_spec {d m : Dur} (hm : 0 < m) (hd : 0 ≤ d) :
    roundDur d m % m = 0 ∧ 2 * (d - roundDur d m) < m ∧ 2 * (roundDur d m - d) ≤ m := by
  simp only [roundDur, Int.not_le.mpr hm, Int.not_lt.mpr hd, if_false, goMod_of_nonneg m hd]
  have h1 := Int.emod_nonneg d (Int.ne_of_gt hm)
  have h2 := Int.emod_lt_of_pos d hm
  have h3 := (sub_emod_spec d hm).1
  split
  · exact ⟨h3, by omega, by omega⟩
  · refine ⟨?_, by omega, by omega⟩
    rw [show d + m - d % m = d - d % m + m by omega, Int.add_emod_right]
    exact h3

theorem roundDur_mono {a b m : Dur} (hm : 0 < m) (ha : 0 ≤ a) (hab : a ≤ b) :
    roundDur a m ≤ roundDur b m := by
  have ⟨a0, a1, a2⟩ := roundDur_spec hm ha
  have ⟨b0, b1, b2⟩ := roundDur_spec hm (Int.le_trans ha hab)
  exact le_of_multiples a0 b0 (by omega)

/-! ### rounding up: `(d + (m - 1)) / m * m`, which Go writes `if r > 0 { d += m - r }` -/

theorem ceil_spec {m : Int} (hm : 0 < m) (d : Int) :
    ((d + (m - 1)) / m * m) % m = 0 ∧ d ≤ (d + (m - 1)) / m * m ∧ (d + (m - 1)) / m * m < d + m := by
  have h1 := Int.emod_nonneg (d + (m - 1)) (Int.ne_of_gt hm)
  have h2 := Int.emod_lt_of_pos (d + (m - 1)) hm
  have h3 := Int.emod_add_mul_ediv (d + (m - 1)) m
  rw [Int.mul_comm] at h3
  exact ⟨Int.mul_emod_left .., by omega, by omega⟩

theorem ceil_le {m : Int} (hm : 0 < m) {d c : Int} (hc : c % m = 0) (hdc : d ≤ c) :
    (d + (m - 1)) / m * m ≤ c := by
  have ⟨h0, _, h2⟩ := ceil_spec hm d
  exact le_of_multiples h0 hc (by omega)

/-- Go's form is a multiple of the unit in the same window `[d, d + m)`, hence the same multiple. -/
theorem ceilMod_eq {d m : Int} (hm : 0 < m) (hd : 0 ≤ d) :
    (if goMod d m > 0 then d + (m - goMod d m) else d) = (d + (m - 1)) / m * m := by
  rw [goMod_of_nonneg m hd]
  have ⟨c0, c1, c2⟩ := ceil_spec hm d
  have ⟨s0, s1, s2⟩ := sub_emod_spec d hm
  have h1 := Int.emod_nonneg d (Int.ne_of_gt hm)
  split
  · have e : (d + (m - d % m)) % m = 0 := by
      rw [show d + (m - d % m) = d - d % m + m by omega, Int.add_emod_right]; exact s0
    exact Int.le_antisymm (le_of_multiples e c0 (by omega)) (le_of_multiples c0 e (by omega))
  · have e : d % m = 0 := by omega
    exact Int.le_antisymm c1 (le_of_multiples c0 e (by omega))

theorem capped_ceil {m cap : Int} (hm : 0 < m) (hcap : cap % m = 0) {y : Int} (hy : 0 ≤ y) :
    (if y < cap then (if goMod y m > 0 then y + (m - goMod y m) else y) else cap) =
      min cap ((y + (m - 1)) / m * m) := by
  rw [ceilMod_eq hm hy]
  have ⟨_, h1, _⟩ := ceil_spec hm y
  split
  · next h => have := ceil_le hm hcap (Int.le_of_lt h); omega
  · omega

end Corerad
