/-
  Lemmas of the address vocabulary (`IP`, `Prefix` of Corerad/Basic.lean) and of the sort key
  `addrKey` of Model/Wild.lean.  `netip.Addr.Compare` and every key built by weighting its parts
  with powers of two are lexicographic comparisons; `compare_lex` is the one arithmetic fact.
-/
import Corerad.Model.Wild

namespace Corerad

theorem compare_lex {B h x h' y : Nat} (hx : x < B) (hy : y < B) :
    compare (h * B + x) (h' * B + y) = (compare h h').then (compare x y) := by
  rcases Nat.lt_trichotomy h h' with hlt | rfl | hgt
  · have : (h + 1) * B ≤ h' * B := Nat.mul_le_mul_right B hlt
    rw [Nat.add_mul, Nat.one_mul] at this
    rw [Nat.compare_eq_lt.mpr hlt, Nat.compare_eq_lt.mpr (by omega)]; rfl
  · rw [Nat.compare_eq_eq.mpr rfl, Ordering.eq_then]
    simp only [Nat.compare_eq_ite_lt, Nat.add_lt_add_iff_left]
  · have : (h' + 1) * B ≤ h * B := Nat.mul_le_mul_right B hgt
    rw [Nat.add_mul, Nat.one_mul] at this
    rw [Nat.compare_eq_gt.mpr hgt, Nat.compare_eq_gt.mpr (by omega)]; rfl

namespace IP

theorem compare_eq_then (a b : IP) :
    IP.compare a b = (Ord.compare a.bitLen b.bitLen).then (Ord.compare a.val b.val) := by
  unfold IP.compare
  rcases Nat.lt_trichotomy a.bitLen b.bitLen with h | h | h
  · rw [if_pos h, Nat.compare_eq_lt.mpr h]; rfl
  · rw [if_neg (by omega), if_neg (by omega), Nat.compare_eq_eq.mpr h, Ordering.eq_then,
      Nat.compare_eq_ite_lt]
  · rw [if_neg (by omega), if_pos h, Nat.compare_eq_gt.mpr h]; rfl

theorem bitLen_le (a : IP) : a.bitLen ≤ 128 := by
  unfold bitLen; split <;> (try split) <;> omega

theorem is6_iff (a : IP) : a.is6 = true ↔ a.valid = true ∧ a.v4 = false := by
  simp [is6]

theorem is6_of_not_is4 {a : IP} (hv : a.valid = true) (h4 : a.is4 = false) : a.is6 = true := by
  simp_all [is4, is6]

theorem bitLen_of_is6 {a : IP} (h : a.is6 = true) : a.bitLen = 128 := by
  obtain ⟨hv, h4⟩ := (is6_iff a).mp h
  simp [bitLen, hv, h4]

theorem eq_of_is6 {a b : IP} (ha : a.is6 = true) (hb : b.is6 = true) (h : a.val = b.val) : a = b := by
  obtain ⟨hav, ha4⟩ := (is6_iff a).mp ha
  obtain ⟨hbv, hb4⟩ := (is6_iff b).mp hb
  cases a; cases b
  simp only [IP.mk.injEq]
  exact ⟨hav.trans hbv.symm, ha4.trans hb4.symm, h⟩

end IP

theorem Prefix.eq_of {p q : Prefix} (ha : p.addr = q.addr) (hb : p.bits = q.bits) : p = q := by
  cases p; cases q; cases ha; cases hb; rfl

theorem Prefix.masked_bits (p : Prefix) : p.masked.bits = p.bits := rfl
theorem Prefix.masked_is6 (p : Prefix) : p.masked.addr.is6 = p.addr.is6 := rfl

theorem Prefix.valid_of_isValid {p : Prefix} (h : p.isValid = true) : p.addr.valid = true := by
  simp only [Prefix.isValid, Bool.and_eq_true] at h; exact h.1

theorem Prefix.isValid_of_is6 {p : Prefix} (h6 : p.addr.is6 = true) (hb : p.bits ≤ 128) :
    p.isValid = true := by
  simp [Prefix.isValid, ((IP.is6_iff _).mp h6).1, IP.bitLen_of_is6 h6, hb]

theorem Prefix.maskVal_le (len bits val : Nat) : Prefix.maskVal len bits val ≤ val := by
  unfold Prefix.maskVal
  split
  · exact Nat.le_refl _
  · exact Nat.div_mul_le_self _ _

theorem Prefix.maskVal_idem (len b v : Nat) :
    Prefix.maskVal len b (Prefix.maskVal len b v) = Prefix.maskVal len b v := by
  unfold Prefix.maskVal
  split
  · rfl
  · rw [Nat.mul_div_cancel _ (Nat.pow_pos (by decide : 0 < 2))]

theorem Prefix.masked_idem (p : Prefix) : p.masked.masked = p.masked := by
  unfold Prefix.masked
  have hb : ({ p.addr with val := Prefix.maskVal p.addr.bitLen p.bits p.addr.val } : IP).bitLen = p.addr.bitLen := rfl
  simp only [hb, Prefix.maskVal_idem]

theorem Prefix.maskVal_of_masked {p : Prefix} (h6 : p.addr.is6 = true) (hm : p.masked = p) :
    Prefix.maskVal 128 p.bits p.addr.val = p.addr.val := by
  have := congrArg (fun x => x.addr.val) hm
  simpa [Prefix.masked, IP.bitLen_of_is6 h6] using this

theorem Prefix.isSingleIP_of_is6 {p : Prefix} (h6 : p.addr.is6 = true) (hb : p.bits ≤ 128) :
    p.isSingleIP = (p.bits == 128) := by
  simp [Prefix.isSingleIP, Prefix.isValid_of_is6 h6 hb, IP.bitLen_of_is6 h6]

namespace Model

theorem compare_eq_compare_addrKey {a b : IP} (ha : a.val < 2^128) (hb : b.val < 2^128) :
    IP.compare a b = compare (addrKey a) (addrKey b) := by
  rw [IP.compare_eq_then, addrKey, addrKey, compare_lex ha hb]

theorem less_iff {a b : IP} (ha : a.val < 2^128) (hb : b.val < 2^128) :
    a.less b = true ↔ addrKey a < addrKey b := by
  rw [IP.less, beq_iff_eq, compare_eq_compare_addrKey ha hb, Nat.compare_eq_lt]

theorem addrKey_lt {a : IP} (ha : a.val < 2^128) : addrKey a < 2^136 := by
  have := a.bitLen_le
  unfold addrKey
  omega

theorem addrKey_inj {a b : IP} (ha : a.is6 = true) (hb : b.is6 = true)
    (h : addrKey a = addrKey b) : a = b := by
  unfold addrKey at h
  rw [IP.bitLen_of_is6 ha, IP.bitLen_of_is6 hb] at h
  exact IP.eq_of_is6 ha hb (Nat.add_left_cancel h)

end Model

end Corerad
