/-
  float64 products of `parseMinInterval` (`Model.floatMulTrunc`): exact below 53 bits, within a
  relative error of 2⁻⁵² in general, and monotone in the sense that a 53-bit number below the exact
  product stays below the rounded one.  Hence `0.33 · float64(x)` is within a nanosecond of
  `33·x/100`, and exact on whole seconds.
-/
import Corerad.Model.Config

namespace Corerad.Model

theorem floatMulTrunc_small (c e x : Nat) (h : x * c < 2 ^ 53) : floatMulTrunc c e x = x * c / 2 ^ e := by
  unfold floatMulTrunc
  have hb : (if x * c = 0 then 0 else (x * c).log2 + 1) ≤ 53 := by
    split
    · omega
    · rename_i hn
      have := (Nat.log2_lt hn).mpr h
      omega
  simp only [hb, if_true]

/-- `m` is the rounded product: the exact one, or one of the two multiples of `2^sh` next to it.  Which
    of the two the tie rule picks, no bound below depends on. -/
theorem floatMulTrunc_cases (c e x : Nat) :
    ∃ m, floatMulTrunc c e x = m / 2 ^ e ∧
      (m = x * c ∨ ∃ sh, 2 ^ sh * 2 ^ 52 ≤ x * c ∧
        (m = x * c / 2 ^ sh * 2 ^ sh ∨ m = (x * c / 2 ^ sh + 1) * 2 ^ sh)) := by
  unfold floatMulTrunc
  generalize x * c = n
  simp only []
  by_cases hb : (if n = 0 then 0 else n.log2 + 1) ≤ 53
  · exact ⟨n, by rw [if_pos hb], .inl rfl⟩
  · have hn : n ≠ 0 := by intro h; simp [h] at hb
    rw [if_neg hb]
    simp only [hn, if_false] at hb ⊢
    refine ⟨_, rfl, .inr ⟨n.log2 + 1 - 53, ?_, ?_⟩⟩
    · rw [← Nat.pow_add, show n.log2 + 1 - 53 + 52 = n.log2 by omega]; exact Nat.log2_self_le hn
    · split
      · exact .inr rfl
      · exact .inl rfl

/-- relative error 2⁻⁵²: a neighbouring multiple of `2^sh` is less than `2^sh ≤ x·c / 2^52` away -/
theorem floatMulTrunc_bounds (c e x : Nat) :
    ∃ m : Nat, floatMulTrunc c e x = m / 2 ^ e ∧
      m * 4503599627370496 ≤ (x * c) * 4503599627370497 ∧
      (x * c) * 4503599627370495 ≤ m * 4503599627370496 := by
  obtain ⟨m, hm, rfl | ⟨sh, hP, hm'⟩⟩ := floatMulTrunc_cases c e x
  · exact ⟨_, hm, by omega, by omega⟩
  · refine ⟨m, hm, ?_⟩
    -- `n = q·P + r` with `r < P` and `P·2^52 ≤ n`; `m` is `q·P` or `q·P + P`
    have hdm := Nat.div_add_mod (x * c) (2 ^ sh)
    have hml := Nat.mod_lt (x * c) (Nat.two_pow_pos sh)
    rw [Nat.mul_comm] at hdm
    rw [Nat.add_mul, Nat.one_mul] at hm'
    generalize x * c = n at *
    generalize 2 ^ sh = P at *
    generalize n / P * P = A at *
    omega

theorem le_floatMulTrunc (c e x N : Nat) (hN : N < 2 ^ 53) (h : N * 2 ^ e ≤ x * c) :
    N ≤ floatMulTrunc c e x := by
  obtain ⟨m, hm, hcases⟩ := floatMulTrunc_cases c e x
  rw [hm]
  apply (Nat.le_div_iff_mul_le (Nat.two_pow_pos e)).mpr
  rcases hcases with rfl | ⟨sh, hP, hm'⟩
  · exact h
  · generalize x * c = n at *
    refine Nat.le_trans ?_ (show n / 2 ^ sh * 2 ^ sh ≤ m by
      rcases hm' with rfl | rfl
      · exact Nat.le_refl _
      · exact Nat.mul_le_mul_right _ (Nat.le_succ _))
    -- `N·2^e ≤ ⌊n / 2^sh⌋·2^sh`: for `sh ≤ e` the left side is a multiple of `2^sh` below `n`;
    -- otherwise the quotient has 53 bits and `N` has fewer
    by_cases hse : sh ≤ e
    · obtain ⟨d, rfl⟩ : ∃ d, e = sh + d := ⟨e - sh, by omega⟩
      rw [Nat.pow_add, Nat.mul_comm (2 ^ sh), ← Nat.mul_assoc] at h ⊢
      exact Nat.mul_le_mul_right _ ((Nat.le_div_iff_mul_le (Nat.two_pow_pos sh)).mpr h)
    · obtain ⟨d, rfl⟩ : ∃ d, sh = e + d + 1 := ⟨sh - e - 1, by omega⟩
      have hq : 2 ^ 52 ≤ n / 2 ^ (e + d + 1) :=
        (Nat.le_div_iff_mul_le (Nat.two_pow_pos _)).mpr (by rw [Nat.mul_comm]; exact hP)
      calc N * 2 ^ e ≤ 2 ^ 53 * 2 ^ e := Nat.mul_le_mul_right _ (Nat.le_of_lt hN)
        _ = 2 ^ 52 * 2 ^ (e + 1) := by
          rw [show (2:Nat) ^ 53 = 2 ^ 52 * 2 from rfl, Nat.pow_succ 2 e, Nat.mul_assoc, Nat.mul_comm 2]
        _ ≤ 2 ^ 52 * 2 ^ (e + d + 1) := Nat.mul_le_mul_left _ (Nat.pow_le_pow_right (by omega) (by omega))
        _ ≤ n / 2 ^ (e + d + 1) * 2 ^ (e + d + 1) := Nat.mul_le_mul_right _ hq

theorem mul033_near (x : Int) (h0 : 0 ≤ x) (h1 : x ≤ 1800 * second) :
    33 * x - 100 ≤ 100 * mul033 x ∧ 100 * mul033 x ≤ 33 * x := by
  obtain ⟨m, hm, hu, hl⟩ := floatMulTrunc_bounds 5944751508129055 54 x.toNat
  have h54 : (2:Nat) ^ 54 = 18014398509481984 := by decide
  unfold mul033
  rw [hm, h54]
  unfold second at h1
  omega

/-- On whole seconds `0.33 · float64(x)` is exact: the double nearest to 0.33 lies above 0.33, so the
    exact product is not below the integer `33·x/100`, which rounding does not cross
    (`le_floatMulTrunc`); it is not above by `mul033_near`. -/
theorem mul033_seconds (k : Nat) (hk : k ≤ 1800) : mul033 ((k : Int) * second) = 330000000 * (k : Int) := by
  have h53 : (2:Nat) ^ 53 = 9007199254740992 := by decide
  have h54 : (2:Nat) ^ 54 = 18014398509481984 := by decide
  unfold second
  have hn := mul033_near ((k : Int) * 1000000000) (by omega) (by unfold second; omega)
  have hl := le_floatMulTrunc 5944751508129055 54 ((k : Int) * 1000000000).toNat (330000000 * k)
    (by omega) (by omega)
  unfold mul033 at hn ⊢
  omega

end Corerad.Model
