/- Go's single-bit mask test `f & (1<<k) != 0` on naturals. -/

namespace Corerad

theorem and_two_pow_ne_zero_iff (m k : Nat) : m &&& 2 ^ k ≠ 0 ↔ m.testBit k = true := by
  constructor
  · intro h
    apply Decidable.byContradiction
    intro hk
    refine h (Nat.eq_of_testBit_eq fun i => ?_)
    rw [Nat.testBit_and, Nat.testBit_two_pow, Nat.zero_testBit]
    by_cases e : k = i
    · subst e; simpa using hk
    · simp [e]
  · intro h e
    have := Nat.testBit_and m (2 ^ k) k
    rw [e, Nat.zero_testBit, h, Nat.testBit_two_pow_self] at this
    cases this

end Corerad
