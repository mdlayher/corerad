/-
  Lemmas for C20 (Props/C20.lean): the transition relation of Model/Server.lean as an inductive
  predicate `Step`, what one step does to each field of the state, the invariant `Inv`, which
  says what a reachable state records of the trace that led to it, and the τ-closure of the oracle
  that judges observed traces.
-/
import Corerad.Spec.C20
import Corerad.Lemmas.Run
import Corerad.Lemmas.ListUtil
namespace Corerad.Model.Server
open Corerad Corerad.Spec.C20

theorem isRun : Run.Of step? run? :=
  ⟨fun _ => rfl, fun s e es => by rw [run?]; cases step? s e <;> rfl⟩

theorem setFirst_true : setFirst = true := by decide
theorem notifyFirst_true : notifyFirst = true := by decide

inductive Step : State → Event → State → Prop
  | start {st : State} {k : Nat} {t : Task} : st.tasks[k]? = some t → t.pc = .notStarted →
      Step st (.start k) (setPc st k t .running)
  | ready {st : State} {k : Nat} {t : Task} : st.tasks[k]? = some t → t.pc = .running → t.ready = false →
      Step st (.ready k) { st with tasks := st.tasks.set k { t with ready := true } }
  | fail {st : State} {k : Nat} {t : Task} : st.tasks[k]? = some t → t.pc = .running →
      Step st (.fail k)
        { setPc st k t (.returned true) with ctxDone := true, firstErr := st.firstErr.or (some k) }
  | earlyNil {st : State} {k : Nat} {t : Task} : st.tasks[k]? = some t → t.pc = .running →
      Step st (.earlyNil k) (setPc st k t (.returned false))
  | signal {st : State} {s : Sig} : Step st (.signal s) { st with pending := st.pending.or (some s) }
  | recvSig {st : State} {s : Sig} : st.sigPc = .waiting → st.pending = some s →
      Step st .recvSig { st with sigPc := .got s false false false, pending := none }
  | setTerm {st : State} {s : Sig} {n c : Bool} : st.sigPc = .got s false n c →
      (setFirst = true ∨ c = true) →
      Step st .setTerm { st with sigPc := .got s true n c, term := some (isTerminal s) }
  | notifyStopping {st : State} {s : Sig} {d c : Bool} : st.sigPc = .got s d false c →
      (notifyFirst = true ∨ c = true) →
      Step st .notifyStopping { st with sigPc := .got s d true c }
  | cancel {st : State} {s : Sig} {d n : Bool} : st.sigPc = .got s d n false →
      (setFirst = true → d = true) → (notifyFirst = true → n = true) →
      Step st .cancel { st with sigPc := .got s d n true, ctxDone := true }
  | sigReturnW {st : State} : st.sigPc = .waiting → st.ctxDone = true →
      Step st .sigReturn { st with sigPc := .returned }
  | sigReturnG {st : State} {s : Sig} : st.sigPc = .got s true true true →
      Step st .sigReturn { st with sigPc := .returned }
  | observeCancel {st : State} {k : Nat} {t : Task} {b : Bool} : st.tasks[k]? = some t →
      t.pc = .running → st.ctxDone = true → b = st.terminate →
      Step st (.observeCancel k b) (setPc st k t .sawCancel)
  | ret {st : State} {k : Nat} {t : Task} {err : Bool} : st.tasks[k]? = some t → t.pc = .sawCancel →
      Step st (.ret k err)
        { setPc st k t (.returned err) with
          firstErr := if err then st.firstErr.or (some k) else st.firstErr }
  | announceReady {st : State} : st.readyAnnounced = false → allReady st = true →
      Step st .announceReady { st with readyAnnounced := true }
  | serveReturn {st : State} : st.served = none → allReturned st = true → st.sigPc = .returned →
      Step st (.serveReturn st.firstErr) { st with served := some st.firstErr }

/-- the six events of a task have one shape in `step?`: the task exists and its guard holds -/
theorem task_step {st st' : State} {k : Nat} {g : Task → Prop} [DecidablePred g] {f : Task → State}
    (h : (match st.tasks[k]? with
      | some t => if g t then some (f t) else none
      | none => none) = some st') :
    ∃ t, st.tasks[k]? = some t ∧ g t ∧ f t = st' := by
  cases ht : st.tasks[k]? with
  | none => simp [ht] at h
  | some t =>
    rw [ht] at h
    exact ⟨t, rfl, Run.of_guarded h⟩

theorem step_of_step? {st st' : State} {e : Event} (h : step? st e = some st') : Step st e st' := by
  cases e <;> simp only [step?] at h
  case start k =>
    obtain ⟨t, ht, hp, rfl⟩ := task_step h
    exact .start ht hp
  case ready k =>
    obtain ⟨t, ht, hp, rfl⟩ := task_step h
    exact .ready ht hp.1 hp.2
  case fail k =>
    obtain ⟨t, ht, hp, rfl⟩ := task_step h
    exact .fail ht hp
  case earlyNil k =>
    obtain ⟨t, ht, hp, rfl⟩ := task_step h
    exact .earlyNil ht hp
  case observeCancel k b =>
    obtain ⟨t, ht, hp, rfl⟩ := task_step h
    exact .observeCancel ht hp.1 hp.2.1 hp.2.2
  case ret k err =>
    obtain ⟨t, ht, hp, rfl⟩ := task_step h
    exact .ret ht hp
  case signal s => cases h; exact .signal
  case recvSig =>
    split at h <;> cases h
    exact .recvSig ‹_› ‹_›
  case setTerm =>
    split at h
    · obtain ⟨hg, rfl⟩ := Run.of_guarded h
      exact .setTerm ‹_› hg
    · cases h
  case notifyStopping =>
    split at h
    · obtain ⟨hg, rfl⟩ := Run.of_guarded h
      exact .notifyStopping ‹_› hg
    · cases h
  case cancel =>
    split at h
    · obtain ⟨hg, rfl⟩ := Run.of_guarded h
      exact .cancel ‹_› hg.1 hg.2
    · cases h
  case sigReturn =>
    split at h
    · obtain ⟨hg, rfl⟩ := Run.of_guarded h
      exact .sigReturnW ‹_› hg
    · cases h; exact .sigReturnG ‹_›
    · cases h
  case announceReady =>
    obtain ⟨hg, rfl⟩ := Run.of_guarded h
    exact .announceReady hg.1 hg.2
  case serveReturn e =>
    obtain ⟨⟨h1, h2, h3, rfl⟩, rfl⟩ := Run.of_guarded h
    exact .serveReturn h1 h2 h3

/-! ### what one step does to each field -/

namespace Step
variable {st st' : State} {e : Event}

theorem length_eq (h : Step st e st') : st'.tasks.length = st.tasks.length := by
  cases h <;> simp [setPc]

theorem ctxDone_iff (h : Step st e st') :
    st'.ctxDone = true ↔ st.ctxDone = true ∨ (∃ k, e = .fail k) ∨ e = .cancel := by
  cases h <;> simp [setPc]

theorem firstErr_eq (h : Step st e st') : st'.firstErr = st.firstErr.or (errOf e) := by
  cases h
  case ret err _ _ => cases err <;> simp [errOf]
  all_goals simp [errOf, setPc]

theorem served_eq (h : Step st e st') : st'.served.isSome = (isServeReturn e || st.served.isSome) := by
  cases h <;> rfl

theorem term_eq (h : Step st e st') (he : e ≠ .setTerm) : st'.term = st.term := by
  cases h
  case setTerm => exact absurd rfl he
  all_goals rfl

end Step

/-! ### what the oracle's observers see of a trace -/

theorem firstSignal_append {a : List Event} {s : Sig} (h : firstSignal a = some s) (b : List Event) :
    firstSignal (a ++ b) = some s := by
  simp only [firstSignal, List.findSome?_append] at h ⊢
  simp [h]

theorem firstSignal_mem {tr : List Event} {s : Sig} (h : firstSignal tr = some s) :
    Event.signal s ∈ tr := by
  simp only [firstSignal] at h
  obtain ⟨x, hx, hs⟩ := List.exists_of_findSome?_eq_some h
  cases x <;> simp [sigOf] at hs
  subst hs; exact hx

theorem firstErrOf_eq_none {tr : List Event} :
    firstErrOf tr = none ↔ (∀ k, Event.fail k ∉ tr) ∧ (∀ k, Event.ret k true ∉ tr) := by
  simp only [firstErrOf, List.findSome?_eq_none_iff]
  constructor
  · intro h
    exact ⟨fun k hk => by simpa [errOf] using h _ hk, fun k hk => by simpa [errOf] using h _ hk⟩
  · rintro ⟨h1, h2⟩ x hx
    cases x <;> simp [errOf]
    case fail k => exact h1 k hx
    case ret k err => cases err <;> simp; exact h2 k hx

/-- `Run` of task `k` has returned somewhere in `tr` -/
def Exited (k : Nat) (tr : List Event) : Prop :=
  (∃ e, Event.ret k e ∈ tr) ∨ Event.fail k ∈ tr ∨ Event.earlyNil k ∈ tr

theorem Exited.mono {k : Nat} {tr : List Event} (e : Event) (h : Exited k tr) : Exited k (tr ++ [e]) := by
  rcases h with ⟨x, h⟩ | h | h
  · exact .inl ⟨x, by simp [h]⟩
  · exact .inr (.inl (by simp [h]))
  · exact .inr (.inr (by simp [h]))

theorem Exited.any {k : Nat} {tr : List Event} (h : Exited k tr) : tr.any (isExitOf k) = true := by
  rcases h with ⟨x, h⟩ | h | h <;> exact List.any_eq_true.mpr ⟨_, h, by simp [isExitOf]⟩

/-! ### the signal task: what its program counter records -/

def SigInv (tr : List Event) (st : State) : Prop :=
  match st.sigPc with
  | .waiting => st.pending = firstSignal tr
  | .got s d _ c =>
    firstSignal tr = some s ∧ (d = true → Event.setTerm ∈ tr) ∧ (c = true → st.ctxDone = true)
  | .returned => st.ctxDone = true

theorem SigInv.got {tr : List Event} {st : State} {s : Sig} {d n c : Bool} (hi : SigInv tr st)
    (hg : st.sigPc = .got s d n c) :
    firstSignal tr = some s ∧ (d = true → Event.setTerm ∈ tr) ∧ (c = true → st.ctxDone = true) := by
  rw [SigInv, hg] at hi; exact hi

theorem SigInv.returned {tr : List Event} {st : State} (hi : SigInv tr st)
    (hr : st.sigPc = .returned) : st.ctxDone = true := by
  rw [SigInv, hr] at hi; exact hi

/-- a step of the tasks or of the supervisor, or a delivered signal: the signal task stays where
    it is, and `sigC` takes the signal iff it is empty, as `firstSignal` does -/
theorem SigInv.frame {tr : List Event} {st st' : State} {e : Event} (hi : SigInv tr st)
    (hpc : st'.sigPc = st.sigPc) (hp : st'.pending = st.pending.or (sigOf e))
    (hc : st.ctxDone = true → st'.ctxDone = true) : SigInv (tr ++ [e]) st' := by
  unfold SigInv at hi ⊢
  rw [hpc, hp, firstSignal, findSome?_snoc, ← firstSignal]
  cases h : st.sigPc <;> simp only [h] at hi ⊢
  · rw [hi]
  · exact ⟨by simp [hi.1], fun hd => List.mem_append_left _ (hi.2.1 hd), fun h => hc (hi.2.2 h)⟩
  · exact hc hi

theorem SigInv.step {tr : List Event} {st st' : State} {e : Event}
    (hi : SigInv tr st) (hs : Step st e st') : SigInv (tr ++ [e]) st' := by
  cases hs
  case recvSig s hw hp =>
    rw [SigInv, hw] at hi
    exact ⟨firstSignal_append (hi ▸ hp) _, nofun, nofun⟩
  case setTerm hg _ =>
    obtain ⟨h1, _, h3⟩ := hi.got hg
    exact ⟨firstSignal_append h1 _, fun _ => by simp, h3⟩
  case notifyStopping hg _ =>
    obtain ⟨h1, h2, h3⟩ := hi.got hg
    exact ⟨firstSignal_append h1 _, fun h => List.mem_append_left _ (h2 h), h3⟩
  case cancel hg _ _ =>
    obtain ⟨h1, h2, _⟩ := hi.got hg
    exact ⟨firstSignal_append h1 _, fun h => List.mem_append_left _ (h2 h), fun _ => rfl⟩
  case sigReturnW hc => exact hc
  case sigReturnG hg => exact (hi.got hg).2.2 rfl
  case signal s => exact SigInv.frame hi rfl rfl id
  all_goals exact SigInv.frame hi rfl (Option.or_none).symm (by simp [setPc])

/-! ### the invariant linking a reachable state to the trace that led to it -/

structure Inv (n : Nat) (tr : List Event) (st : State) : Prop where
  len : st.tasks.length = n
  ctx : st.ctxDone = true ↔ (∃ k, Event.fail k ∈ tr) ∨ Event.cancel ∈ tr
  ferr : st.firstErr = firstErrOf tr
  served : st.served.isSome = tr.any isServeReturn
  sig : SigInv tr st
  /-- holds in every later state as it stands (a second `set` would record the same value), so
      nothing about the terminator has to be carried along the rest of a run -/
  term : Event.setTerm ∈ tr → ∃ s, firstSignal tr = some s ∧ st.term = some (isTerminal s)
  tasks : ∀ k t, st.tasks[k]? = some t →
    (t.ready = true → Event.ready k ∈ tr) ∧ (t.pc.isReturned = true → Exited k tr)

theorem Inv.init (n : Nat) : Inv n [] (init n) := by
  constructor <;> simp [Model.Server.init, firstErrOf, firstSignal, SigInv, List.getElem?_replicate, Pc.isReturned]

theorem Inv.step {n : Nat} {tr : List Event} {st st' : State} {e : Event}
    (hi : Inv n tr st) (hs : Step st e st') : Inv n (tr ++ [e]) st' where
  len := hs.length_eq.trans hi.len
  ctx := by
    rw [hs.ctxDone_iff, hi.ctx]
    simp [exists_or, or_assoc, or_left_comm, eq_comm]
  ferr := by rw [hs.firstErr_eq, hi.ferr, firstErrOf, firstErrOf, findSome?_snoc]
  served := by rw [hs.served_eq, hi.served, List.any_append, Bool.or_comm]; simp
  sig := hi.sig.step hs
  term := by
    intro hm
    by_cases he : e = .setTerm
    · subst he
      cases hs with
      | setTerm hg _ => exact ⟨_, firstSignal_append (hi.sig.got hg).1 _, rfl⟩
    · obtain ⟨s, h1, h2⟩ := hi.term (by simpa [Ne.symm he] using hm)
      exact ⟨s, firstSignal_append h1 _, (hs.term_eq he).trans h2⟩
  tasks := by
    have old : ∀ k t, st.tasks[k]? = some t →
        (t.ready = true → Event.ready k ∈ tr ++ [e]) ∧ (t.pc.isReturned = true → Exited k (tr ++ [e])) :=
      fun k t hk => ⟨fun h => List.mem_append_left _ ((hi.tasks k t hk).1 h), fun h => ((hi.tasks k t hk).2 h).mono e⟩
    cases hs
    case start ht _ => exact forall_getElem?_set old ⟨(old _ _ ht).1, nofun⟩
    case ready ht _ _ => exact forall_getElem?_set old ⟨fun _ => by simp, (old _ _ ht).2⟩
    case fail ht _ => exact forall_getElem?_set old ⟨(old _ _ ht).1, fun _ => .inr (.inl (by simp))⟩
    case earlyNil ht _ => exact forall_getElem?_set old ⟨(old _ _ ht).1, fun _ => .inr (.inr (by simp))⟩
    case observeCancel ht _ _ _ => exact forall_getElem?_set old ⟨(old _ _ ht).1, nofun⟩
    case ret ht _ => exact forall_getElem?_set old ⟨(old _ _ ht).1, fun _ => .inl ⟨_, List.mem_concat_self⟩⟩
    all_goals exact old

theorem Inv.run {n : Nat} {pre post : List Event} {s st : State} (hi : Inv n pre s)
    (h : run? s post = some st) : Inv n (pre ++ post) st :=
  isRun.invariant (fun _ _ _ _ hi hs => hi.step (step_of_step? hs)) hi h

theorem inv_of_run {n : Nat} {tr : List Event} {st : State} (h : run? (init n) tr = some st) :
    Inv n tr st := by
  simpa using (Inv.init n).run h

theorem run_at {n : Nat} {pre post : List Event} {e : Event} {st : State}
    (h : run? (init n) (pre ++ e :: post) = some st) :
    ∃ s1 s2, run? (init n) pre = some s1 ∧ Inv n pre s1 ∧ Step s1 e s2 ∧ run? s2 post = some st := by
  obtain ⟨s1, s2, h1, h2, h3⟩ := isRun.split.mp h
  exact ⟨s1, s2, h1, inv_of_run h1, step_of_step? h2, h3⟩

/-! ### the oracle's quantifier, the projection to observable events, the τ-closure -/

theorem allPrefix_iff (p : List Event → Event → Bool) (acc tr : List Event) :
    allPrefix p acc tr = true ↔ ∀ pre e post, tr = pre ++ e :: post → p (acc ++ pre) e = true := by
  induction tr generalizing acc with
  | nil => simp [allPrefix]
  | cons x r ih =>
    simp only [allPrefix, Bool.and_eq_true, ih]
    constructor
    · rintro ⟨h0, h1⟩ pre e post heq
      cases pre with
      | nil => simp at heq; obtain ⟨rfl, rfl⟩ := heq; simpa using h0
      | cons y pre =>
        simp at heq; obtain ⟨rfl, rfl⟩ := heq
        simpa using h1 pre e post rfl
    · intro h
      refine ⟨by simpa using h [] x r rfl, ?_⟩
      intro pre e post heq
      subst heq
      simpa using h (x :: pre) e post rfl

theorem tau_invisible {e : Event} (h : e.observable = false) :
    errOf e = none ∧ sigOf e = none ∧ isFail e = false ∧ ∀ k, isExitOf k e = false := by
  cases e <;> simp [Event.observable] at h <;> simp [errOf, sigOf, isFail, isExitOf]

theorem clause_filter (n : Nat) (pre : List Event) (e : Event) :
    clause n (pre.filter Event.observable) e = clause n pre e := by
  have hex : ∀ k, (pre.filter Event.observable).any (isExitOf k) = pre.any (isExitOf k) :=
    fun k => any_filter_of _ _ (fun _ h => (tau_invisible h).2.2.2 k) pre
  have hfail : (pre.filter Event.observable).any isFail = pre.any isFail :=
    any_filter_of _ _ (fun _ h => (tau_invisible h).2.2.1) pre
  have herr : firstErrOf (pre.filter Event.observable) = firstErrOf pre :=
    findSome?_filter_of _ _ (fun _ h => (tau_invisible h).1) pre
  have hsig : firstSignal (pre.filter Event.observable) = firstSignal pre :=
    findSome?_filter_of _ _ (fun _ h => (tau_invisible h).2.1) pre
  have hrd : ∀ k, (pre.filter Event.observable).contains (Event.ready k) = pre.contains (Event.ready k) := by
    intro k
    rw [Bool.eq_iff_iff]
    simp [List.mem_filter, Event.observable]
  cases e <;> simp only [clause, hex, hfail, herr, hsig, hrd]

/-- `x` is reached from `s` by internal steps of the signal task alone -/
def TauReach (s x : State) : Prop :=
  ∃ l, l.filter Event.observable = [] ∧ run? s l = some x

theorem TauReach.trans {a b c : State} : TauReach a b → TauReach b c → TauReach a c :=
  fun ⟨l1, hl1, hr1⟩ ⟨l2, hl2, hr2⟩ =>
    ⟨l1 ++ l2, by simp [hl1, hl2], by simp [isRun.append, hr1, hr2]⟩

theorem tauRound_sound {ss : List State} {x : State} (h : x ∈ tauRound ss) :
    ∃ s, s ∈ ss ∧ TauReach s x := by
  simp only [tauRound, List.mem_eraseDups, List.mem_append, List.mem_flatMap, List.mem_filterMap] at h
  rcases h with h | ⟨s, hs, e, he, hx⟩
  · exact ⟨x, h, [], rfl, rfl⟩
  · refine ⟨s, hs, [e], ?_, by simp [run?, hx]⟩
    simp only [taus, List.mem_cons, List.not_mem_nil, or_false] at he
    rcases he with rfl | rfl | rfl | rfl <;> rfl

theorem tauClose_sound {ss : List State} {x : State} (h : x ∈ tauClose ss) :
    ∃ s, s ∈ ss ∧ TauReach s x := by
  obtain ⟨s3, h3, r3⟩ := tauRound_sound h
  obtain ⟨s2, h2, r2⟩ := tauRound_sound h3
  obtain ⟨s1, h1, r1⟩ := tauRound_sound h2
  obtain ⟨s0, h0, r0⟩ := tauRound_sound h1
  exact ⟨s0, h0, ((r0.trans r1).trans r2).trans r3⟩

theorem rejectedAt_sound (obs : List Event) (hobs : ∀ e ∈ obs, Event.observable e = true) :
    ∀ (ss : List State) (i : Nat), ss ≠ [] → rejectedAt ss i obs = none →
      ∃ s, s ∈ ss ∧ ∃ tr st, run? s tr = some st ∧ tr.filter Event.observable = obs := by
  induction obs with
  | nil =>
    intro ss i hne _
    cases ss with
    | nil => exact absurd rfl hne
    | cons s _ => exact ⟨s, by simp, [], s, rfl, rfl⟩
  | cons e es ih =>
    intro ss i _ h
    simp only [rejectedAt] at h
    split at h
    · simp at h
    · rename_i ss' hne'
      have hne'' : obsStep ss e ≠ [] := hne'
      obtain ⟨s', hs', tr', st, hr', hf'⟩ :=
        ih (fun x hx => hobs x (List.mem_cons_of_mem _ hx)) (obsStep ss e) (i + 1) hne'' h
      simp only [obsStep, List.mem_eraseDups, List.mem_filterMap] at hs'
      obtain ⟨s'', hs'', hstep⟩ := hs'
      obtain ⟨s, hs, l, hl, hr⟩ := tauClose_sound hs''
      refine ⟨s, hs, l ++ e :: tr', st, ?_, ?_⟩
      · simp [isRun.append, hr, run?, hstep, hr']
      · have he : Event.observable e = true := hobs e (by simp)
        simp [List.filter_append, hl, he, hf']
end Corerad.Model.Server
