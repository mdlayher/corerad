/-
  Three-valued results against the pure `Option` model.  `Result.Follows blocked mayPanic r o` reads:
  `r` runs the pure computation `o` — an error when `blocked`, otherwise what `o` yields — and can be a
  panic instead only if `mayPanic`.  It is preserved by `bind` and by loops (`traverse`); "never a
  panic", "an ok result is the pure model's" and "exactly the pure model" are its three readings
  (`ne_panic`, `eq_ok`, `eq`).
-/
import Corerad.Model.Observe

namespace Corerad.Model.Observe.Result

theorem ofOption_ne_panic (o : Option α) : ofOption o ≠ panic := by
  cases o <;> exact fun h => nomatch h

theorem ofOption_eq_ok {o : Option α} {x : α} : ofOption o = ok x ↔ o = some x := by
  cases o <;> simp [ofOption]

def Follows (blocked : Bool) (mayPanic : Prop) (r : Result α) (o : Option α) : Prop :=
  r = ofOption (if blocked then none else o) ∨ (mayPanic ∧ r = panic)

namespace Follows

variable {b b₁ b₂ : Bool} {P Q : Prop} {r : Result α} {o : Option α}

theorem ofOption (o : Option α) : Follows false P (ofOption o) o := .inl rfl

theorem error : Follows b P (.error : Result α) none := .inl (by cases b <;> rfl)

theorem mono (hPQ : P → Q) (hb : b = b₁) (h : Follows b P r o) : Follows b₁ Q r o :=
  hb ▸ h.imp_right (And.imp_left hPQ)

/-- whether the continuation is blocked may not depend on the value -/
theorem bind {f : α → Result β} {g : α → Option β} (h : Follows b₁ P r o)
    (hf : ∀ x, o = some x → Follows b₂ P (f x) (g x)) : Follows (b₁ || b₂) P (r.bind f) (o.bind g) := by
  rcases h with rfl | ⟨hP, rfl⟩
  · cases b₁ with
    | true => exact .inl rfl
    | false =>
      cases o with
      | none => exact error
      | some x => exact hf x rfl
  · exact .inr ⟨hP, rfl⟩

theorem bind_map {f : α → Result β} {k : α → β} (h : Follows b₁ P r o)
    (hf : ∀ x, o = some x → Follows b₂ P (f x) (some (k x))) : Follows (b₁ || b₂) P (r.bind f) (o.map k) := by
  have := h.bind hf
  cases o <;> exact this

theorem map {f : α → β} (h : Follows b P r o) : Follows b P (r.bind fun x => .ok (f x)) (o.map f) :=
  (h.bind_map (b₂ := false) fun x _ => ofOption (some (f x))).mono id (Bool.or_false b)

/-- the loop `R` follows the pure loop `O`, each given by its two equations -/
theorem traverse {β γ : Type} {step : α → Result β} {pstep : α → Option β} {blk : α → Bool}
    {R : List α → Result γ} {O : List α → Option γ} {z : γ} {c : β → γ → γ}
    (hR0 : R [] = .ok z) (hRc : ∀ x l, R (x :: l) = (step x).bind fun a => (R l).bind fun b => .ok (c a b))
    (hO0 : O [] = some z) (hOc : ∀ x l, O (x :: l) = (pstep x).bind fun a => (O l).bind fun b => some (c a b))
    (l : List α) (h : ∀ x ∈ l, Follows (blk x) P (step x) (pstep x)) :
    Follows (l.any blk) P (R l) (O l) := by
  induction l with
  | nil => rw [hR0, hO0]; exact ofOption (some z)
  | cons x l ih =>
    rw [hRc, hOc, List.any_cons, ← Bool.or_false (l.any blk)]
    exact (h x List.mem_cons_self).bind fun _ _ =>
      (ih fun y hy => h y (List.mem_cons_of_mem _ hy)).bind fun _ _ => ofOption (some _)

theorem eq_ok (h : Follows b P r o) {x : α} (hr : r = .ok x) : o = some x := by
  rcases h with h | ⟨_, h⟩
  · cases b with
    | true => rw [hr] at h; exact nomatch h
    | false => exact ofOption_eq_ok.mp (h ▸ hr)
  · rw [hr] at h; exact nomatch h

theorem eq (h : Follows b P r o) (hP : ¬P) : r = .ofOption (if b then none else o) :=
  h.resolve_right fun h' => hP h'.1

theorem ne_panic (h : Follows b P r o) (hP : ¬P) : r ≠ .panic :=
  h.eq hP ▸ ofOption_ne_panic _

end Follows

end Corerad.Model.Observe.Result
