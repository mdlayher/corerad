/-
  `Model.classify` and `Model.requestOf` (Model/Advertiser.lean) with the match on the NDP type
  written as tests on `kind`, so that users split on decidable propositions.
-/
import Corerad.Model.Advertiser

namespace Corerad.Model

open Corerad

theorem classify_eq (e : AdvEvent) :
    classify e = if e.hop ≠ 255 then .invalidHop else if e.kind = 0 then .solicit
      else if e.kind = 1 then .advert else .otherType := by
  unfold classify
  split
  · rfl
  · split <;> simp_all

theorem requestOf_eq (e : AdvEvent) :
    requestOf e =
      if e.hop = 255 ∧ e.kind = 0 then some (e.t, if e.host = 0 then Req.mc else Req.uc e.host) else none := by
  rw [requestOf, classify_eq]
  by_cases hh : e.hop = 255
  · by_cases h0 : e.kind = 0
    · simp [hh, h0]
    · by_cases h1 : e.kind = 1 <;> simp [hh, h0, h1]
  · simp [hh]

end Corerad.Model
