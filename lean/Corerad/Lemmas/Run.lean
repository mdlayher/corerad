/-
  Runs of a transition system whose step is a partial function.  `Group.run`, `GroupQ.run`,
  `Server.run?` and `shRun` each satisfy the two equations of `Run.Of` (one `isRun` lemma per system),
  so how a run splits and how an invariant is carried along it are proved here once.  Before them:
  steps of the form `if guard then some update else none`.
-/
namespace Corerad.Run

variable {σ ε : Type} {step : σ → ε → Option σ} {run : σ → List ε → Option σ}

/-- a guarded step that succeeds: its guard holds and it yields the update -/
theorem of_guarded {c : Prop} [Decidable c] {a b : σ}
    (h : (if c then some a else none) = some b) : c ∧ a = b := by
  simpa using h

/-- a guarded step is disabled exactly when its guard fails -/
theorem isNone_guarded {c : Prop} [Decidable c] {a : σ} :
    (if c then some a else none).isNone = true ↔ ¬c := by
  split <;> simp [*]

structure Of (step : σ → ε → Option σ) (run : σ → List ε → Option σ) : Prop where
  nil : ∀ x, run x [] = some x
  cons : ∀ x e es, run x (e :: es) = (step x e).bind (run · es)

namespace Of
variable (h : Of step run)
include h

theorem nil_eq_some {x y : σ} : run x [] = some y ↔ x = y := by simp [h.nil]

theorem cons_eq_some {x y : σ} {e : ε} {es : List ε} :
    run x (e :: es) = some y ↔ ∃ z, step x e = some z ∧ run z es = some y := by
  rw [h.cons]; exact Option.bind_eq_some_iff

theorem append (x : σ) (as bs : List ε) : run x (as ++ bs) = (run x as).bind (run · bs) := by
  induction as generalizing x with
  | nil => simp [h.nil]
  | cons a as ih => cases hs : step x a <;> simp [h.cons, hs, ih]

theorem split {x y : σ} {pre post : List ε} {e : ε} :
    run x (pre ++ e :: post) = some y ↔
      ∃ a b, run x pre = some a ∧ step a e = some b ∧ run b post = some y := by
  simp only [h.append, Option.bind_eq_some_iff, h.cons_eq_some]
  exact ⟨fun ⟨a, h1, b, h2, h3⟩ => ⟨a, b, h1, h2, h3⟩, fun ⟨a, b, h1, h2, h3⟩ => ⟨a, h1, b, h2, h3⟩⟩

theorem invariant {P : List ε → σ → Prop}
    (hP : ∀ tr x e y, P tr x → step x e = some y → P (tr ++ [e]) y) {pre post : List ε} {x y : σ}
    (hx : P pre x) (hr : run x post = some y) : P (pre ++ post) y := by
  induction post generalizing pre x with
  | nil => cases h.nil_eq_some.mp hr; simpa using hx
  | cons e post ih =>
    obtain ⟨z, hz, hr⟩ := h.cons_eq_some.mp hr
    simpa using ih (hP pre x e z hx hz) hr

theorem preserved {P : σ → Prop} (hP : ∀ x y e, P x → step x e = some y → P y) {es : List ε}
    {x y : σ} (hx : P x) (hr : run x es = some y) : P y :=
  h.invariant (P := fun _ => P) (fun _ x e y => hP x y e) (pre := []) hx hr

end Of
end Corerad.Run
