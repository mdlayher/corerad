/-
  Lemmas for C08 (Props/C08.lean): one inversion lemma per event of the shutdown transition
  system, and what a run does to the components other than `inflight`: `terminate` is constant,
  and each of `finalBegin`, `finalEnd`, `runReturn`, `cancel` raises a flag of the state that
  nothing else touches, so it occurs at most once and the flag tells whether it has.
-/
import Corerad.Spec.C08
import Corerad.Lemmas.Run

namespace Corerad.Model

open Corerad

theorem shStep_writeBegin (a : Bool) (s s' : ShState) :
    shStep a s .writeBegin = some s' ↔
      (s.final = 0 ∧ s.returned = false) ∧ s' = { s with inflight := s.inflight + 1 } := by
  simp [shStep, @eq_comm _ _ s']

theorem shStep_writeEnd (a : Bool) (s s' : ShState) :
    shStep a s .writeEnd = some s' ↔
      0 < s.inflight ∧ s' = { s with inflight := s.inflight - 1 } := by
  simp [shStep, @eq_comm _ _ s']

theorem shStep_cancel (a : Bool) (s s' : ShState) :
    shStep a s .cancel = some s' ↔
      (s.cancelled = false ∧ s.returned = false) ∧ s' = { s with cancelled := true } := by
  simp [shStep, @eq_comm _ _ s']

theorem shStep_finalBegin (a : Bool) (s s' : ShState) :
    shStep a s .finalBegin = some s' ↔
      (s.cancelled = true ∧ s.terminate = true ∧ s.final = 0 ∧ s.returned = false ∧
        (a = true → s.inflight = 0)) ∧ s' = { s with final := 1 } := by
  simp [shStep, @eq_comm _ _ s']

theorem shStep_finalEnd (a : Bool) (s s' : ShState) :
    shStep a s .finalEnd = some s' ↔ s.final = 1 ∧ s' = { s with final := 2 } := by
  simp [shStep, @eq_comm _ _ s']

theorem shStep_runReturn (a : Bool) (s s' : ShState) :
    shStep a s .runReturn = some s' ↔
      (s.cancelled = true ∧ s.returned = false ∧ (a = true → s.inflight = 0) ∧
        s.final = (if s.terminate = true then 2 else 0)) ∧ s' = { s with returned := true } := by
  simp [shStep, @eq_comm _ _ s']

theorem shRun_isRun (a : Bool) : Run.Of (shStep a) (shRun a) :=
  ⟨fun _ => rfl, fun s e es => by rw [shRun]; cases shStep a s e <;> rfl⟩

theorem shAccepts_iff (a t : Bool) (tr : List ShEv) :
    shAccepts a t tr = true ↔ ∃ s', shRun a { terminate := t } tr = some s' := by
  unfold shAccepts
  exact Option.isSome_iff_exists

/-- event `e` leaves the flag (`p` before, `p'` after) alone unless it is `x`, which raises it -/
def Raises (e x : ShEv) (p p' : Bool) : Prop := p' = p ∧ e ≠ x ∨ e = x ∧ p = false ∧ p' = true

theorem shStep_effect (a : Bool) (s s' : ShState) (e : ShEv) (h : shStep a s e = some s') :
    s'.terminate = s.terminate ∧
    Raises e .finalBegin (decide (s.final ≠ 0)) (decide (s'.final ≠ 0)) ∧
    Raises e .finalEnd (decide (s.final = 2)) (decide (s'.final = 2)) ∧
    Raises e .runReturn s.returned s'.returned ∧
    Raises e .cancel s.cancelled s'.cancelled := by
  cases e with
  | writeBegin => obtain ⟨_, rfl⟩ := (shStep_writeBegin a s s').mp h; simp [Raises]
  | writeEnd => obtain ⟨_, rfl⟩ := (shStep_writeEnd a s s').mp h; simp [Raises]
  | cancel => obtain ⟨⟨hc, _⟩, rfl⟩ := (shStep_cancel a s s').mp h; simp [Raises, hc]
  | finalBegin => obtain ⟨⟨_, _, hf, _, _⟩, rfl⟩ := (shStep_finalBegin a s s').mp h; simp [Raises, hf]
  | finalEnd => obtain ⟨hf, rfl⟩ := (shStep_finalEnd a s s').mp h; simp [Raises, hf]
  | runReturn => obtain ⟨⟨_, hr, _, _⟩, rfl⟩ := (shStep_runReturn a s s').mp h; simp [Raises, hr]

theorem shRun_terminate (a : Bool) (tr : List ShEv) (s s' : ShState) (h : shRun a s tr = some s') :
    s'.terminate = s.terminate :=
  (shRun_isRun a).preserved (P := fun x => x.terminate = s.terminate)
    (fun x y e hx hs => ((shStep_effect a x y e hs).1).trans hx) rfl h

open Spec.C08

theorem count_cons (e x : ShEv) (xs : List ShEv) :
    count e (x :: xs) = count e xs + (if x = e then 1 else 0) := by
  unfold count
  by_cases h : x = e
  · simp [h]
  · simp [h]

theorem count_eq_zero_iff {e : ShEv} {tr : List ShEv} : count e tr = 0 ↔ e ∉ tr := by
  simp only [count, List.length_eq_zero_iff, List.filter_eq_nil_iff, beq_iff_eq]
  exact ⟨fun h hm => h e hm rfl, fun h a ha hae => h (hae ▸ ha)⟩

/-- An event that raises a flag, and alone touches it, has occurred iff the flag went up. -/
theorem shRun_count (a : Bool) (x : ShEv) (p : ShState → Bool)
    (hp : ∀ s e s', shStep a s e = some s' → Raises e x (p s) (p s')) :
    ∀ (tr : List ShEv) (s s' : ShState), shRun a s tr = some s' →
      count x tr + (p s).toNat = (p s').toNat
  | [], s, s', h => by rw [(shRun_isRun a).nil_eq_some.mp h]; exact Nat.zero_add _
  | e :: es, s, s', h => by
    obtain ⟨s1, h1, h2⟩ := (shRun_isRun a).cons_eq_some.mp h
    rw [count_cons, ← shRun_count a x p hp es s1 s' h2]
    rcases hp s e s1 h1 with ⟨hs, he⟩ | ⟨he, h0, h1⟩
    · rw [if_neg he, hs]; rfl
    · rw [if_pos he, h0, h1]; rfl

theorem shRun_counts (a : Bool) (tr : List ShEv) (s s' : ShState) (h : shRun a s tr = some s') :
    count .finalBegin tr + (decide (s.final ≠ 0)).toNat = (decide (s'.final ≠ 0)).toNat ∧
    count .finalEnd tr + (decide (s.final = 2)).toNat = (decide (s'.final = 2)).toNat ∧
    count .runReturn tr + s.returned.toNat = s'.returned.toNat ∧
    count .cancel tr + s.cancelled.toNat = s'.cancelled.toNat :=
  ⟨shRun_count a _ (fun s => decide (s.final ≠ 0)) (fun s e s' h => (shStep_effect a s s' e h).2.1) tr s s' h,
   shRun_count a _ (fun s => decide (s.final = 2)) (fun s e s' h => (shStep_effect a s s' e h).2.2.1) tr s s' h,
   shRun_count a _ (·.returned) (fun s e s' h => (shStep_effect a s s' e h).2.2.2.1) tr s s' h,
   shRun_count a _ (·.cancelled) (fun s e s' h => (shStep_effect a s s' e h).2.2.2.2) tr s s' h⟩

end Corerad.Model
