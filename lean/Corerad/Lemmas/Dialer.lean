/-
  Helper lemmas for the dialer model (C10 dialer part, C11): the model's own equations; the
  induction principle "a fold over the trace of `goRun`" used by every trace theorem; and, for
  each oracle automaton, the invariant of its state at the loop heads of `Dial`/`init` together
  with the proof that one iteration preserves it.
-/
import Corerad.Spec.C10Dialer
import Corerad.Spec.C11
import Corerad.Lemmas.ListUtil

namespace Corerad.Model.Dialer

variable {leak : Bool} {cfg : Cfg} {ph : Phase} {st : St} {a : Attempt}

theorem attempts_eq : attempts = Spec.C10Dialer.maxAttempts := by decide

theorem enterRetry_zero : enterRetry 0 = .inr (.retry 0) := by decide

/-- the six ways through `dial()` -/
theorem dialFn_cases (leak adv : Bool) (k : Nat) (ac : Bool) (a : Attempt) :
    (a.pre ≠ .ok ∧ dialFn leak adv k ac a = ⟨[], a.pre, none, ac⟩) ∨
    (adv = false ∧ dialFn leak adv k ac a = ⟨[.open k], .ok, none, ac⟩) ∨
    (a.get ≠ .none ∧ dialFn leak adv k ac a =
      ⟨[.open k, .getAutoconf false a.get] ++ errTail leak k, .other, none, ac⟩) ∨
    (a.set = .none ∧ dialFn leak adv k ac a =
      ⟨[.open k, .getAutoconf ac .none, .setAutoconf false .none], .ok, some ac, false⟩) ∨
    (a.set = .permission ∧ dialFn leak adv k ac a =
      ⟨[.open k, .getAutoconf ac .none, .setAutoconf false .permission], .ok, some ac, ac⟩) ∨
    ((a.set ≠ .none ∧ a.set ≠ .permission) ∧ dialFn leak adv k ac a =
      ⟨[.open k, .getAutoconf ac .none, .setAutoconf false a.set] ++ errTail leak k, .other, none, ac⟩) := by
  unfold dialFn
  split
  · split
    · simp_all
    · split
      · split <;> simp_all
      · simp_all
  · simp_all

/-- where the loop goes after a failed `DialFunc` call: the first error is classified, one
    inside the retry loop only counted -/
def failNext (ph : Phase) (o : DialOut) (k : Nat) : Sum Ret Phase :=
  match ph with
  | .first => o.next k
  | .retry i => enterRetry (i + 1)

theorem afterDial_eq {D : DialRes} (hD : dialFn leak cfg.adv st.k st.ac a = D) :
    afterDial leak cfg ph st a =
      if D.out = .ok then
        { evs := .dial st.k :: D.evs ++ .dialRet st.k .ok :: .fnStart st.k :: .fnReturn st.k a.task ::
                   (doneFn st.k D.restore a.rst D.ac).evs,
          st := ⟨st.k + 1, st.now, (doneFn st.k D.restore a.rst D.ac).ac⟩,
          next := if (doneFn st.k D.restore a.rst D.ac).failed then .inl (.cleanup st.k)
                  else a.task.next st.k }
      else
        { evs := .dial st.k :: D.evs ++ [.dialRet st.k D.out],
          st := ⟨st.k + 1, st.now, D.ac⟩,
          next := failNext ph D.out st.k } := by
  subst hD
  unfold afterDial
  cases hout : (dialFn leak cfg.adv st.k st.ac a).out <;> simp [hout] <;> cases ph <;> rfl

/-- the `select` at the head of a retry iteration -/
theorem stepAttempt_retry_cases (leak : Bool) (cfg : Cfg) (st : St) (a : Attempt) (i : Nat) :
    (∃ T : Nat, cfg.cancelAt = some T ∧ (T : Int) < st.now + delay i ∧
      stepAttempt leak cfg (.retry i) st a =
        ⟨[.wait (T - st.now), .ctxDone], { st with now := T }, .inl .nil⟩) ∨
    ((∀ T : Nat, cfg.cancelAt = some T → st.now + delay i ≤ T) ∧
      stepAttempt leak cfg (.retry i) st a =
        { afterDial leak cfg (.retry i) { st with now := st.now + delay i } a with
          evs := .wait (delay i) ::
            (afterDial leak cfg (.retry i) { st with now := st.now + delay i } a).evs }) := by
  unfold stepAttempt cancelledBefore cancelInstant
  cases cfg.cancelAt with
  | none => simp
  | some T =>
    by_cases h : (T : Int) < st.now + delay i
    · exact .inl ⟨T, rfl, h, by simp [h]⟩
    · exact .inr ⟨fun T' hT' => by cases hT'; omega, by simp [h]⟩

theorem default_next (leak : Bool) (cfg : Cfg) (ph : Phase) (st : St) :
    ∃ e, (stepAttempt leak cfg ph st {}).next = .inl e := by
  have h : ∀ st, ∃ e, (afterDial leak cfg ph st {}).next = .inl e := fun st => by
    cases hadv : cfg.adv <;> simp [afterDial, dialFn, doneFn, TaskOut.next, hadv]
  cases ph with
  | first => exact h st
  | retry i =>
    rcases stepAttempt_retry_cases leak cfg st {} i with ⟨_, _, _, hs⟩ | ⟨_, hs⟩ <;> rw [hs]
    · exact ⟨_, rfl⟩
    · exact h _

theorem goRun_nil {e : Ret} (h : (stepAttempt leak cfg ph st {}).next = .inl e) :
    goRun leak cfg ph st [] = finish (stepAttempt leak cfg ph st {}) e := by
  rw [goRun]; simp only [h]

theorem goRun_cons_inl (as : List Attempt) {e : Ret}
    (h : (stepAttempt leak cfg ph st a).next = .inl e) :
    goRun leak cfg ph st (a :: as) = finish (stepAttempt leak cfg ph st a) e := by
  rw [goRun]; simp only [h]

theorem goRun_cons_inr (as : List Attempt) {ph' : Phase}
    (h : (stepAttempt leak cfg ph st a).next = .inr ph') :
    goRun leak cfg ph st (a :: as) =
      { goRun leak cfg ph' (stepAttempt leak cfg ph st a).st as with
        evs := (stepAttempt leak cfg ph st a).evs ++
               (goRun leak cfg ph' (stepAttempt leak cfg ph st a).st as).evs } := by
  rw [goRun]; simp only [h]

def Keeps {σ : Type} (f : σ → Ev → σ) (Inv : Phase → St → σ → Prop) (Fin : σ → Ret → Bool → Prop)
    (r : StepRes) (s : σ) : Prop :=
  match r.next with
  | .inr ph' => Inv ph' r.st (r.evs.foldl f s)
  | .inl e => Fin (f (r.evs.foldl f s) (.ret e)) e r.st.ac

theorem Keeps.of_post {σ : Type} {f : σ → Ev → σ} {Inv : Phase → St → σ → Prop}
    {Fin : σ → Ret → Bool → Prop} {r : StepRes} {s : σ} (Post : Sum Ret Phase → St → σ → Prop)
    (hp : Post r.next r.st (r.evs.foldl f s))
    (hI : ∀ ph' st s, Post (.inr ph') st s → Inv ph' st s)
    (hF : ∀ e st s, Post (.inl e) st s → Fin (f s (.ret e)) e st.ac) : Keeps f Inv Fin r s := by
  unfold Keeps
  split <;> rename_i h <;> rw [h] at hp
  · exact hI _ _ _ hp
  · exact hF _ _ _ hp

/-- Induction over the fused loop.  The iterations are those on the attempts of the script and, past
    its end, on the default attempt. -/
theorem goRun_induct (leak : Bool) (cfg : Cfg) {σ : Type} (f : σ → Ev → σ)
    (Inv : Phase → St → σ → Prop) (Fin : σ → Ret → Bool → Prop) (script : List Attempt)
    (hstep : ∀ ph st s, ∀ a ∈ ({} : Attempt) :: script, Inv ph st s →
      Keeps f Inv Fin (stepAttempt leak cfg ph st a) s)
    (ph : Phase) (st : St) (s : σ) (h : Inv ph st s) :
      Fin ((goRun leak cfg ph st script).evs.foldl f s) (goRun leak cfg ph st script).ret
          (goRun leak cfg ph st script).ac := by
  unfold Keeps at hstep
  fun_induction goRun leak cfg ph st script generalizing s with
  | case1 ph st r e he =>
    have := hstep ph st s {} (by simp) h
    rw [he] at this
    simpa [finish, List.foldl_append] using this
  | case2 ph st r ph' he =>
    -- the default attempt never continues
    obtain ⟨e, he'⟩ := default_next leak cfg ph st
    cases he.symm.trans he'
  | case3 ph st a as r e he =>
    have := hstep ph st s a (by simp) h
    rw [he] at this
    simpa [finish, List.foldl_append] using this
  | case4 ph st a as r ph' he o ih =>
    have := hstep ph st s a (by simp) h
    rw [he] at this
    simp only [List.foldl_append]
    exact ih (fun ph st s a' ha' =>
      hstep ph st s a' (by simp at ha' ⊢; exact ha'.imp_right .inr)) _ this

/-! ### C11: the bracket and autoconf automata -/

section C11
open Corerad.Spec.C11

attribute [local simp] doneFn closeEvs errTail bStep aStep aPre

def InvB (k : Nat) (b : BAcc) : Prop :=
  b.cur = none ∧ b.nextId ≤ k ∧ b.done = false ∧ b.ok = true

theorem afterDial_bracket {b : BAcc} (h : InvB st.k b) :
    InvB (afterDial false cfg ph st a).st.k ((afterDial false cfg ph st a).evs.foldl bStep b) := by
  cases b
  obtain ⟨rfl, hn, rfl, rfl⟩ := h
  have hn' := Nat.le_succ_of_le hn
  rcases dialFn_cases false cfg.adv st.k st.ac a with
    ⟨h, hD⟩ | ⟨h, hD⟩ | ⟨h, hD⟩ | ⟨h, hD⟩ | ⟨h, hD⟩ | ⟨h, hD⟩ <;>
  simp [afterDial_eq hD, h, InvB, hn, hn']

/-- the waits are nothing to the bracket automaton -/
theorem stepAttempt_bracket {b : BAcc} (h : InvB st.k b) :
    InvB (stepAttempt false cfg ph st a).st.k ((stepAttempt false cfg ph st a).evs.foldl bStep b) := by
  cases ph with
  | first => exact afterDial_bracket h
  | retry i =>
    cases b
    obtain ⟨rfl, hn, rfl, rfl⟩ := h
    rcases stepAttempt_retry_cases false cfg st a i with ⟨_, _, _, hs⟩ | ⟨_, hs⟩ <;> rw [hs]
    · exact ⟨rfl, hn, rfl, rfl⟩
    · exact afterDial_bracket (st := { st with now := st.now + delay i }) ⟨rfl, hn, rfl, rfl⟩

theorem InvB.ret {k : Nat} {b : BAcc} (e : Ret) (h : InvB k b) :
    (bStep b (.ret e)).ok = true ∧ (bStep b (.ret e)).done = true := by
  simp [h.1, h.2.2.1, h.2.2.2]

/-- the autoconf oracle's state at a loop head (and, with `must`, after an iteration): `ac` is the
    interface's present value, which is the initial `ac0` unless a write has failed, since an
    advertising connection writes back what it read -/
def InvA (ac0 ac : Bool) (must : Option Nat) (x : AAcc) : Prop :=
  x.init = ac0 ∧ x.pending = none ∧ x.mustRet = must ∧ x.value = ac ∧
  (x.setFailed = false → ac = ac0) ∧
  x.okHeld = true ∧ x.okRestore = true ∧ x.okErrors = true ∧ x.okRestored = true

def FinA (ac0 : Bool) (x : AAcc) (ac : Bool) : Prop :=
  x.okHeld = true ∧ x.okRestore = true ∧ x.okErrors = true ∧ x.okRestored = true ∧
  x.value = ac ∧ (x.setFailed = false → ac = ac0)

/-- what an iteration's `next` says about a pending clean-up error -/
def mustOf : Sum Ret Phase → Option Nat
  | .inl (.cleanup k) => some k
  | _ => none

theorem mustOf_cleanup (k : Nat) : mustOf (.inl (.cleanup k)) = some k := rfl

theorem mustOf_enterRetry (i : Nat) : mustOf (enterRetry i) = none := by
  unfold enterRetry; split <;> rfl

theorem TaskOut.mustOf_next (t : TaskOut) (k : Nat) : mustOf (t.next k) = none := by
  cases t <;> first | rfl | exact mustOf_enterRetry 0

theorem mustOf_failNext (ph : Phase) (o : DialOut) (k : Nat) : mustOf (failNext ph o k) = none := by
  cases ph
  · cases o <;> first | rfl | exact mustOf_enterRetry 0
  · exact mustOf_enterRetry _

theorem afterDial_autoconf {ac0 : Bool} {x : AAcc} (h : InvA ac0 st.ac none x) :
    InvA ac0 (afterDial leak cfg ph st a).st.ac (mustOf (afterDial leak cfg ph st a).next)
      ((afterDial leak cfg ph st a).evs.foldl aStep x) := by
  cases x
  obtain ⟨rfl, rfl, rfl, rfl, hsf, rfl, rfl, rfl, rfl⟩ := h
  rcases dialFn_cases leak cfg.adv st.k st.ac a with
    ⟨h, hD⟩ | ⟨h, hD⟩ | ⟨h, hD⟩ | ⟨h, hD⟩ | ⟨h, hD⟩ | ⟨h, hD⟩ <;> rw [afterDial_eq hD]
  · simpa [h, InvA, mustOf_failNext] using hsf
  · simpa [InvA, TaskOut.mustOf_next] using hsf
  · cases leak <;> simpa [h, InvA, mustOf_failNext] using hsf
  -- an advertising connection: the fault of the restoring write, its last event, decides
  · simp only [InvA]
    simp
    cases a.rst <;> simp [TaskOut.mustOf_next, mustOf_cleanup]
    -- both writes succeeded: the value is again the one found
    exact hsf
  · simp only [InvA]
    simp
    cases a.rst <;> simp [TaskOut.mustOf_next, mustOf_cleanup]
  · cases leak <;> simp [h, InvA, mustOf_failNext]

theorem stepAttempt_autoconf {ac0 : Bool} {x : AAcc} (h : InvA ac0 st.ac none x) :
    InvA ac0 (stepAttempt leak cfg ph st a).st.ac (mustOf (stepAttempt leak cfg ph st a).next)
      ((stepAttempt leak cfg ph st a).evs.foldl aStep x) := by
  cases ph with
  | first => exact afterDial_autoconf h
  | retry i =>
    have hq : (∀ d, aStep x (.wait d) = x) ∧ aStep x .ctxDone = x := by simp [h.2.1, h.2.2.1]
    rcases stepAttempt_retry_cases leak cfg st a i with ⟨_, _, _, hs⟩ | ⟨_, hs⟩ <;> rw [hs]
    · simp only [List.foldl_cons, List.foldl_nil, hq]
      exact h
    · simp only [List.foldl_cons, hq]
      exact afterDial_autoconf (st := { st with now := st.now + delay i }) h

theorem InvA.ret {ac0 ac : Bool} {e : Ret} {x : AAcc} (h : InvA ac0 ac (mustOf (.inl e)) x) :
    FinA ac0 (aStep x (.ret e)) ac := by
  obtain ⟨_, _, setFailed⟩ := x
  obtain ⟨rfl, rfl, rfl, rfl, hsf, rfl, rfl, rfl, rfl⟩ := h
  cases e <;> cases setFailed <;> simp_all [mustOf, FinA]

theorem stepAttempt_ac (h : a.set = .none ∧ a.rst = .none) :
    (stepAttempt leak cfg ph st a).st.ac = st.ac := by
  have key : ∀ st : St, (afterDial leak cfg ph st a).st.ac = st.ac := fun st => by
    rcases dialFn_cases leak cfg.adv st.k st.ac a with
      ⟨h', hD⟩ | ⟨h', hD⟩ | ⟨h', hD⟩ | ⟨h', hD⟩ | ⟨h', hD⟩ | ⟨h', hD⟩ <;>
    simp [afterDial_eq hD, h', h.1, h.2] at h' ⊢
  cases ph with
  | first => exact key st
  | retry i =>
    rcases stepAttempt_retry_cases leak cfg st a i with ⟨_, _, _, hs⟩ | ⟨_, hs⟩ <;> rw [hs]
    exact key _
end C11

/-! ### C10 (dialer part): the policy automaton -/

section C10
open Corerad.Spec.C10Dialer

/-- events the C10 oracle does not look at -/
def quiet : Ev → Bool
  | .open _ => true
  | .getAutoconf _ _ => true
  | .setAutoconf _ _ => true
  | .fnStart _ => true
  | .leave _ => true
  | .cleanup _ => true
  | _ => false

theorem dialFn_quiet (leak adv : Bool) (k : Nat) (ac : Bool) (a : Attempt) :
    (dialFn leak adv k ac a).evs.all quiet = true := by
  rcases dialFn_cases leak adv k ac a with
    ⟨_, hD⟩ | ⟨_, hD⟩ | ⟨_, hD⟩ | ⟨_, hD⟩ | ⟨_, hD⟩ | ⟨_, hD⟩ <;>
  rw [hD] <;> cases leak <;> rfl

theorem doneFn_quiet (k : Nat) (r : Option Bool) (f : Fault) (ac : Bool) :
    (doneFn k r f ac).evs.all quiet = true := by
  cases r <;> rfl

theorem foldl_quiet {l : List Ev} (h : l.all quiet = true) (s : Acc) :
    l.foldl Spec.C10Dialer.step s = s :=
  foldl_fixed _ _ _ fun e he => by
    have := List.all_eq_true.mp h e he
    cases e <;> first | rfl | cases this

theorem delay_eq (i : Nat) : delay i = backoff i := by
  unfold delay backoff step maxDelay
  simp only [Gen.Dialer.step, Gen.Dialer.maxDelay]
  by_cases h0 : i = 0
  · subst h0; decide
  · simp only [h0, if_false]
    by_cases h1 : (i : Int) * 250000000 > 3000000000
    · simp only [h1, if_true]; omega
    · simp only [h1, if_false]; omega

/-- the model's `switch` on the first dial error is the documented classification -/
theorem DialOut.next_eq (o : DialOut) (k : Nat) :
    o.next k = match dialClass o with
      | .fine => .inl .nil
      | .recoverable => .inr (.retry 0)
      | .fatal => .inl (.dial k) := by
  cases o <;> first | rfl | exact enterRetry_zero

theorem TaskOut.next_eq (t : TaskOut) (k : Nat) :
    t.next k = match taskClass t with
      | .fine => .inl .nil
      | .recoverable => .inr (.retry 0)
      | .fatal => .inl (.task k) := by
  cases t <;> first | rfl | exact enterRetry_zero

/-- the oracle's state at a loop head: every field but `afterTask` is determined by the phase -/
def Inv10 (cfg : Cfg) : Phase → St → Acc → Prop
  | .first, st, a => a = {} ∧ ∀ T, cfg.cancelAt = some T → st.now ≤ (T : Int)
  | .retry i, st, a =>
    a.inRetry = true ∧ a.i = i ∧ i < maxAttempts ∧ a.slept = 0 ∧ a.cancelled = false ∧ a.expect = none ∧
    a.done = false ∧ a.first = false ∧
    a.okClass = true ∧ a.okBackoff = true ∧ a.okAttempts = true ∧ a.okCancel = true ∧
    ∀ T, cfg.cancelAt = some T → st.now ≤ (T : Int)

def Fin10 (a : Acc) (_ : Ret) (_ : Bool) : Prop :=
  a.done = true ∧ a.okClass = true ∧ a.okBackoff = true ∧ a.okAttempts = true ∧ a.okCancel = true

/-- the oracle's state when `DialFunc` is called: the back-off has been slept -/
def dialAcc : Phase → Acc
  | .first => {}
  | .retry i => { first := false, inRetry := true, i := i, slept := backoff i }

theorem afterDial10 (hi : ∀ i, ph = .retry i → i < maxAttempts)
    (hT : ∀ T, cfg.cancelAt = some T → st.now ≤ (T : Int)) :
    Keeps Spec.C10Dialer.step (Inv10 cfg) Fin10 (afterDial leak cfg ph st a) (dialAcc ph) := by
  unfold Keeps
  rw [afterDial_eq rfl]
  have hD := foldl_quiet (dialFn_quiet leak cfg.adv st.k st.ac a)
  generalize dialFn leak cfg.adv st.k st.ac a = D at hD ⊢
  have hC := foldl_quiet (doneFn_quiet st.k D.restore a.rst D.ac)
  generalize doneFn st.k D.restore a.rst D.ac = C at hC ⊢
  obtain ⟨_, o, _, _⟩ := D
  obtain ⟨_, failed, _⟩ := C
  by_cases hok : o = .ok
  · subst hok
    simp only [if_true, List.foldl_cons, List.foldl_append, hD, hC]
    -- the dial is accepted and ends the re-initialisation, whose count no longer matters
    obtain ⟨j, hj⟩ : ∃ j, Spec.C10Dialer.step (Spec.C10Dialer.step (dialAcc ph) (.dial st.k)) (.dialRet st.k .ok) =
        { first := false, i := j } := by
      cases ph with
      | first => exact ⟨0, rfl⟩
      | retry i => exact ⟨i + 1, by simp [Spec.C10Dialer.step, dialAcc, hi]⟩
    rw [hj]
    cases failed
    · rw [TaskOut.next_eq]
      cases hc : taskClass a.task <;> simp [Spec.C10Dialer.step, hc, Inv10, Fin10, maxAttempts] <;> exact hT
    · cases hc : taskClass a.task <;> simp [Spec.C10Dialer.step, hc, Fin10]
  · simp only [hok, if_false, List.foldl_cons, List.foldl_append, List.foldl_nil, hD]
    cases ph with
    | first =>
      rw [failNext, DialOut.next_eq]
      cases hc : dialClass o <;> simp [Spec.C10Dialer.step, hc, dialAcc, Inv10, Fin10, maxAttempts]
      · cases o <;> simp_all [dialClass]
      · exact hT
    | retry i =>
      have hlt := hi i rfl
      simp only [failNext, enterRetry, attempts_eq]
      by_cases hlast : i + 1 < maxAttempts
      · have : ¬ i + 1 = maxAttempts := by omega
        simp [Spec.C10Dialer.step, hok, dialAcc, Inv10, hlt, hlast, this]
        exact hT
      · have : i + 1 = maxAttempts := by omega
        simp [Spec.C10Dialer.step, hok, dialAcc, Fin10, hlt, this]

theorem step10 {s : Acc} (h : Inv10 cfg ph st s) :
    Keeps Spec.C10Dialer.step (Inv10 cfg) Fin10 (stepAttempt leak cfg ph st a) s := by
  unfold Keeps
  cases ph with
  | first =>
    obtain ⟨rfl, hT⟩ := h
    exact afterDial10 (fun _ h => nomatch h) hT
  | retry _ =>
    obtain ⟨_, _, i, _, _, _, afterTask⟩ := s
    simp only [Inv10] at h
    obtain ⟨rfl, rfl, hlt, rfl, rfl, rfl, rfl, rfl, rfl, rfl, rfl, rfl, hT⟩ := h
    rcases stepAttempt_retry_cases leak cfg st a _ with ⟨T, hTe, hlt', hs⟩ | ⟨hT', hs⟩ <;> rw [hs]
    · have := hT T hTe
      rw [delay_eq] at hlt'
      simp [Spec.C10Dialer.step, Fin10]
      omega
    · have hb : 0 ≤ backoff i := by unfold backoff; omega
      have hw : Spec.C10Dialer.step { first := false, inRetry := true, i := i, afterTask := afterTask }
          (.wait (delay i)) = dialAcc (.retry i) := by
        simp [Spec.C10Dialer.step, dialAcc, delay_eq, hb]
      simp only [List.foldl_cons, hw]
      exact afterDial10 (st := { st with now := st.now + delay i }) (fun _ h => by cases h; exact hlt) hT'
end C10

end Corerad.Model.Dialer
