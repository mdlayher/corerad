/-
  TransC13 — `(*Prefix).current` (internal/plugin/plugin.go) tied to `Model.currentPrefixes` by
  REGENERATION.

  The function is re-translated from its current source text into `Corerad.Gen.Trans.Prefix_current`
  on every run (tools/extract/translate_loop.go): the `for _, a := range addrs` loop becomes a left
  fold whose state is the pair (`prefixes`, `seen`), every `continue` yields the state unchanged,
  `seen[pfx] = struct{}{}` / `_, ok := seen[pfx]` are insertion into / membership in a set,
  `slices.SortStableFunc` is `Model.sortStableFunc` with the translated comparator.  `system.IP`,
  `netip.Prefix`, `netip.Addr` are abstract types of the translation and everything the function
  reads of them is an uninterpreted parameter.

  `Prefix_current_equiv` instantiates the parameters with the model's `SysIP` / `Prefix` / `IP` and
  states, for EVERY address list, equality with the declarative model
  `sortBy addrKey ∘ dedupe ∘ map masked ∘ filter prefixEligible` — the function the C13 theorems
  (membership iff, strictly ascending, duplicate-free, permutation- and multiplicity-invariant) are
  about.  Dropping or adding an exclusion test, testing the flags of the wrong record, masking before
  the length test, keying `seen` by something else, appending before the `seen` test, sorting by
  another key or not at all: each changes the translated definition and this proof stops checking.
-/
import Corerad.Gen.Trans
import Corerad.Model.Wild
import Corerad.Lemmas.LoopFold
import Corerad.Lemmas.Addr

namespace Corerad.Props.TransC13

open Corerad Corerad.Model Corerad.Lemmas.LoopFold

/-- `netip.Prefix.Bits()`: the prefix length, `-1` for an invalid prefix -/
def goBits (p : Prefix) : Int := if p.isValid then (p.bits : Int) else -1

theorem goBits_valid (p : Prefix) (h : p.isValid = true) : goBits p = (p.bits : Int) := by
  simp [goBits, h]

/-- `netip.Addr.Compare` as the integer `slices.SortStableFunc` consumes -/
def compareInt (a b : IP) : Int :=
  match IP.compare a b with
  | .lt => -1
  | .eq => 0
  | .gt => 1

/-- On well-formed addresses (`val` below 2^128) `Compare` orders as the model's sort key does. -/
theorem compareInt_le_iff (a b : IP) (ha : a.val < 2^128) (hb : b.val < 2^128) :
    compareInt a b ≤ 0 ↔ addrKey a ≤ addrKey b := by
  rw [compareInt, compare_eq_compare_addrKey ha hb, ← Nat.compare_ne_gt]
  cases compare (addrKey a) (addrKey b) <;> decide

/-- `Bits()` agrees with the stanza's length exactly on the valid prefixes of that length -/
theorem goBits_beq (bits : Nat) (hb : bits ≤ 128) (p : Prefix) :
    (goBits p == goBits ⟨{}, bits⟩) = (p.isValid && p.bits == bits) := by
  have hr : (⟨{}, bits⟩ : Prefix).isValid = true := by simpa [Prefix.isValid, IP.bitLen] using hb
  rw [Bool.eq_iff_iff]
  simp only [goBits, hr, if_true, beq_iff_eq, Bool.and_eq_true]
  cases p.isValid <;> simp <;> omega

/-- **`(*Prefix).current()` as translated from the source is `Model.currentPrefixes`**, for every
    address list the operating system can hand over (any length, order, multiplicity) and every
    stanza length `bits ≤ 128` (the configuration only admits 64): the loop with its `seen` set is
    `dedupe ∘ map masked ∘ filter eligible`, and the stable sort by `Addr().Compare` is the model's
    sort by address key. -/
theorem Prefix_current_equiv (bits : Nat) (hb : bits ≤ 128) (as : List SysIP)
    (hwf : ∀ a ∈ as, a.addr.addr.val < 2^128) :
    Gen.Trans.Prefix_current (recv_Addrs := some as) (IP_Address := fun a => a.addr)
        (Prefix_Addr := fun p => p.addr) (Addr_Is4 := IP.is4)
        (Addr_IsLinkLocalUnicast := IP.isLinkLocalUnicast) (Prefix_Bits := goBits)
        (recv_Prefix := ⟨{}, bits⟩) (IP_Temporary := fun a => a.temporary)
        (IP_Tentative := fun a => a.tentative) (Prefix_Masked := Prefix.masked)
        (Addr_Compare := compareInt)
      = some (currentPrefixes bits as) := by
  unfold Gen.Trans.Prefix_current currentPrefixes
  simp only [Option.some.injEq]
  apply seenLoop_sorted
  · intro st a _
    simp only [step, prefixEligible, bne, goBits_beq bits hb]
    generalize (a.addr.addr.is4 || a.addr.addr.isLinkLocalUnicast) = x
    generalize (a.temporary || a.tentative) = y
    cases a.addr.isValid <;> cases x <;> cases (a.addr.bits == bits) <;> cases y <;> rfl
  · intro a ha b hb'
    exact compareInt_le_iff _ _ (Nat.lt_of_le_of_lt (Prefix.maskVal_le _ _ _) (hwf a ha))
      (Nat.lt_of_le_of_lt (Prefix.maskVal_le _ _ _) (hwf b hb'))

/-- an error from the address source is an error of the expansion (RA generation fails) -/
theorem Prefix_current_error {IPRec Addr Pfx : Type} [DecidableEq Pfx] (ia : IPRec → Pfx) (pa : Pfx → Addr)
    (i4 ll : Addr → Bool) (pb : Pfx → Int) (rp : Pfx) (tmp tnt : IPRec → Bool) (pm : Pfx → Pfx)
    (cmp : Addr → Addr → Int) :
    Gen.Trans.Prefix_current (recv_Addrs := none) (IP_Address := ia) (Prefix_Addr := pa) (Addr_Is4 := i4)
        (Addr_IsLinkLocalUnicast := ll) (Prefix_Bits := pb) (recv_Prefix := rp) (IP_Temporary := tmp)
        (IP_Tentative := tnt) (Prefix_Masked := pm) (Addr_Compare := cmp) = none := rfl

/-- non-vacuity: a list with a duplicate /64, a link-local, a temporary and a /128 address -/
example :
    Gen.Trans.Prefix_current
        (recv_Addrs := some [
          { addr := ⟨{ val := 0x20010db8000000020000000000000001 }, 64⟩ },
          { addr := ⟨{ val := 0xfe800000000000000000000000000001 }, 64⟩ },
          { addr := ⟨{ val := 0x20010db8000000010000000000000001 }, 64⟩ },
          { addr := ⟨{ val := 0x20010db8000000020000000000000002 }, 64⟩ },
          { addr := ⟨{ val := 0x20010db8000000030000000000000001 }, 64⟩, temporary := true },
          { addr := ⟨{ val := 0x20010db8000000040000000000000001 }, 128⟩ } ])
        (IP_Address := fun (a : SysIP) => a.addr)
        (Prefix_Addr := fun p => p.addr) (Addr_Is4 := IP.is4)
        (Addr_IsLinkLocalUnicast := IP.isLinkLocalUnicast) (Prefix_Bits := goBits)
        (recv_Prefix := ⟨{}, 64⟩) (IP_Temporary := fun a => a.temporary)
        (IP_Tentative := fun a => a.tentative) (Prefix_Masked := Prefix.masked)
        (Addr_Compare := compareInt)
      = some [⟨{ val := 0x20010db8000000010000000000000000 }, 64⟩,
              ⟨{ val := 0x20010db8000000020000000000000000 }, 64⟩] := by
  decide +kernel

end Corerad.Props.TransC13
