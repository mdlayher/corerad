/-
  C19 — link-state subscribers get exactly what they asked for; the watcher never blocks.

  All trace theorems quantify over every history of `subscribe | notify | drain | endWatch`
  operations (any length, any number of subscribers, any change sets) and are proved by
  induction on the history.  Vocabulary (`offered`, `receivedBy`, `bufAt`, `closesOf`, `nsubs`)
  is defined in Lemmas/Watcher.lean; the model in Model/Watcher.lean; the oracle the check
  evaluates on the implementation's observations in Spec/C19.lean.

  Residue (not a theorem): "subscribing concurrently with notification is safe" is data-race
  freedom under `sync.RWMutex` — Go memory model, outside the model.
-/
import Corerad.Lemmas.Watcher
import Corerad.Lemmas.Bits

namespace Corerad.Props.C19

open Corerad Corerad.Model.Watcher

/-! ### regenerated facts: the literals of the statements are the source's -/

theorem gen_subscriberBuf : Gen.Netstate.subscriberBuf = 8 := by decide

/-- `1 << iota` for the seven RFC 2863 states, in declaration order -/
theorem gen_bits :
    [Gen.Netstate.linkUp, Gen.Netstate.linkDown, Gen.Netstate.linkTesting, Gen.Netstate.linkUnknown,
     Gen.Netstate.linkDormant, Gen.Netstate.linkNotPresent, Gen.Netstate.linkLowerLayerDown]
      = [1, 2, 4, 8, 16, 32, 64] := by decide

/-- `LinkAny` is 127, the union of the seven bits -/
theorem gen_linkAny :
    Gen.Netstate.linkAny = 127 ∧
    Gen.Netstate.linkAny =
      (Gen.Netstate.linkUp ||| Gen.Netstate.linkDown ||| Gen.Netstate.linkTesting |||
       Gen.Netstate.linkUnknown ||| Gen.Netstate.linkDormant ||| Gen.Netstate.linkNotPresent |||
       Gen.Netstate.linkLowerLayerDown) := by decide

/-- every channel send in `notify` is a case of a `select` that has a `default` clause -/
theorem gen_notifySendHasDefault : Gen.Netstate.notifySendHasDefault = true := by decide

/-- the channels are closed in `Watch`'s deferred func, under `w.mu.Lock` -/
theorem gen_closeUnderLockInDefer : Gen.Netstate.closeUnderLockInDefer = true := by decide

/-- `notify` takes the Watcher's lock exactly once: no recursive read lock, which would deadlock
    against a concurrent `Subscribe` (the only part of "subscribing concurrently with notification
    is safe" that is visible in the source text; the rest is the Go memory model) -/
theorem gen_notify_no_nested_lock : Gen.Netstate.notifyNestedLock = false := by decide

/-- the condition under which `notify` skips a subscription bucket -/
theorem gen_notifyMaskTest : Gen.Netstate.notifyMaskTest = "k & change == 0" := by decide

/-! ### one notification step -/

/-- One change `c` on interface `i` is appended to subscriber `s`'s channel iff `i` is the
    subscriber's interface, its mask intersects `c`, and fewer than 8 events are pending. -/
theorem delivered_iff (i c : Nat) (s : Sub) :
    (deliver i c s).buf = s.buf ++ [c] ↔ s.iface = i ∧ s.mask &&& c ≠ 0 ∧ s.buf.length < 8 := by
  rw [deliver_eq]
  split
  · exact iff_of_true rfl ‹_›
  · exact iff_of_false (by simp) ‹_›

theorem not_delivered (i c : Nat) (s : Sub)
    (h : ¬ (s.iface = i ∧ s.mask &&& c ≠ 0 ∧ s.buf.length < 8)) : deliver i c s = s := by
  rw [deliver_eq, if_neg h]

/-- events beyond the 8-slot buffer are dropped, not queued -/
theorem overflow_dropped (i c : Nat) (s : Sub) (h : s.buf.length = 8) : deliver i c s = s :=
  not_delivered i c s (by omega)

/-- The state-level step is the per-subscriber step applied to every registered subscriber. -/
theorem notifyChange_pointwise (i c : Nat) (st : State) (j : Nat) :
    (notifyChange i st c)[j]? = st[j]?.map (deliver i c) := by
  unfold notifyChange; exact List.getElem?_map

/-! ### buffers never exceed 8 -/

/-- In every reachable state (after any history) every subscriber holds at most 8 events. -/
theorem buffer_bounded (ops : List Op) : ∀ s ∈ (run [] ops).1, s.buf.length ≤ 8 :=
  run_bounded [] ops (fun _ h => by simp at h)

/-- The bound is an invariant of every operation from any bounded state. -/
theorem buffer_bounded_step (st : State) (op : Op) (h : ∀ s ∈ st, s.buf.length ≤ 8) :
    ∀ s ∈ (step st op).1, s.buf.length ≤ 8 :=
  step_bounded st op h

/-! ### order -/

/-- What a subscriber registered at any point (id `j = st.length`) receives over the rest of
    the history — all its drains, then whatever is still buffered — is a subsequence of the
    changes on its interface that intersect its mask, in the order they occurred. -/
theorem order_preserved (st : State) (i m : Nat) (ops : List Op) :
    let r := run (subscribe st i m) ops
    (receivedBy st.length ops r.2 ++ bufAt st.length r.1).Sublist (offered i m ops) := by
  obtain ⟨l, hl, heq⟩ := sub_track st.length ops _ _ (subscribe_getElem? st i m)
  show (receivedBy _ ops (run _ ops).2 ++ bufAt _ (run _ ops).1).Sublist _
  rw [heq]
  exact hl

/-- …and it is exactly those changes when the subscriber never had 8 events pending (after
    every prefix of the history its buffer held fewer than 8). -/
theorem order_exact (st : State) (i m : Nat) (ops : List Op)
    (hroom : ∀ pre post, ops = pre ++ post →
      (bufAt st.length (run (subscribe st i m) pre).1).length < 8) :
    let r := run (subscribe st i m) ops
    receivedBy st.length ops r.2 ++ bufAt st.length r.1 = offered i m ops :=
  sub_track_exact st.length ops _ _ (subscribe_getElem? st i m) hroom

/-- In particular: up to 8 matching changes in total are all received, in order, however
    rarely (or never) the subscriber reads. -/
theorem order_exact_of_le_8 (st : State) (i m : Nat) (ops : List Op)
    (h : (offered i m ops).length ≤ 8) :
    let r := run (subscribe st i m) ops
    receivedBy st.length ops r.2 ++ bufAt st.length r.1 = offered i m ops :=
  sub_track_all st.length ops _ _ (subscribe_getElem? st i m) (by simpa using h)

/-! ### notification never waits -/

/-- Frame conditions of `notify`: the state it returns has the same subscribers with the same
    interface, mask and closed-ness, and each buffer is only extended at the end.  (That the real
    `notify` never WAITS is not a theorem — every Lean function is total: it rests on the
    regenerated fact `gen_notifySendHasDefault`, the only channel operation being a send in a
    `select` with `default`, and on the virtual-time watchdog of the harness.) -/
theorem notify_frame (st : State) (cs : List (Nat × List Nat)) :
    ∃ st', notify st cs = st' ∧ st'.length = st.length ∧
      ∀ (j : Nat) (s : Sub), st[j]? = some s → ∃ s' : Sub, st'[j]? = some s' ∧
        s'.iface = s.iface ∧ s'.mask = s.mask ∧ s'.closes = s.closes ∧ s.buf <+: s'.buf := by
  refine ⟨_, rfl, by simp [notify_eq_map], fun j s h => ?_⟩
  exact ⟨s.push (offeredSet s.iface s.mask cs), by simp [notify_eq_map, deliverSet_eq, h], rfl, rfl, rfl, _, rfl⟩

/-! ### closing -/

/-- Before the watch ends no channel is closed. -/
theorem not_closed_before (ops : List Op) (h : Op.endWatch ∉ ops) :
    closesOf (run [] ops).1 = List.replicate (nsubs ops) 0 := by
  simpa [closesOf] using closesOf_run_of_no_end [] ops h

/-- After the end of the watch every subscriber registered before it has been closed exactly
    once, and the subscribers registered afterwards not at all — whatever else happens in the
    history before (`pre`) and after (`post`). -/
theorem closed_exactly_once (pre post : List Op) (hpre : Op.endWatch ∉ pre) (hpost : Op.endWatch ∉ post) :
    closesOf (run [] (pre ++ Op.endWatch :: post)).1 =
      List.replicate (nsubs pre) 1 ++ List.replicate (nsubs post) 0 := by
  rw [run_append]
  show closesOf (run (step (run [] pre).1 .endWatch).1 post).1 = _
  rw [closesOf_run_of_no_end _ post hpost, closesOf_step, not_closed_before pre hpre, List.map_replicate,
    if_pos rfl]
  simp [nsubs]

/-- `Watch` is single-use: on one Watcher the first call passes the guard and every later call
    panics — so the deferred close loop runs at most once and a history has at most one
    `endWatch` (the premise of `closed_exactly_once`). -/
theorem single_use (n : Nat) : watchCalls false (n + 1) = false :: List.replicate n true := by
  have h : ∀ n, watchCalls true n = List.replicate n true := by
    intro n
    induction n with
    | zero => rfl
    | succ n ih => simp [watchCalls, watchGuard, ih, List.replicate_succ]
  simp [watchCalls, watchGuard, h]

/-- Closing keeps what was buffered readable: the end of the watch changes no buffer. -/
theorem close_keeps_buffers (st : State) : (endWatch st).map (·.buf) = st.map (·.buf) := by
  simp [endWatch, List.map_map, Function.comp_def]

theorem wf_true_no_end (ops : List Op) (h : wf true ops = true) : Op.endWatch ∉ ops := by
  induction ops with
  | nil => simp
  | cons op ops ih => cases op <;> simp_all [wf]

theorem wf_of_append (pre : List Op) (hpre : Op.endWatch ∉ pre) {ops : List Op}
    (h : wf false (pre ++ ops) = true) : wf false ops = true := by
  induction pre with
  | nil => exact h
  | cons op pre ih => cases op <;> simp_all [wf]

/-- A well-formed history (no `notify` or second `endWatch` after the end of the watch) is
    either without `endWatch` or of the shape `pre ++ endWatch :: post` used above. -/
theorem wf_shape (ops : List Op) (h : wf false ops = true) :
    Op.endWatch ∉ ops ∨
      ∃ pre post, ops = pre ++ Op.endWatch :: post ∧ Op.endWatch ∉ pre ∧ Op.endWatch ∉ post := by
  by_cases hm : Op.endWatch ∈ ops
  · obtain ⟨pre, post, rfl, hpre⟩ := List.eq_append_cons_of_mem hm
    exact .inr ⟨pre, post, rfl, hpre, wf_true_no_end post (by simpa [wf] using wf_of_append pre hpre h)⟩
  · exact .inl hm

/-- Hence on every well-formed history no channel is ever closed twice. -/
theorem never_closed_twice (ops : List Op) (h : wf false ops = true) :
    ∀ k ∈ closesOf (run [] ops).1, k ≤ 1 := by
  rcases wf_shape ops h with h' | ⟨pre, post, rfl, h1, h2⟩
  · rw [not_closed_before ops h']
    intro k hk; rw [List.mem_replicate] at hk; omega
  · rw [closed_exactly_once pre post h1 h2]
    intro k hk
    rcases List.mem_append.mp hk with hk | hk <;> rw [List.mem_replicate] at hk <;> omega

/-! ### the mask table -/

/-- For every mask (the 127 non-empty subsets of the seven link states, and the empty one) and
    every single change: the mask test of `notify` lets the change through iff the change's bit
    is a member of the mask. -/
theorem mask_table :
    ∀ m : Fin 128, ∀ k : Fin 7,
      (m.val &&& [Gen.Netstate.linkUp, Gen.Netstate.linkDown, Gen.Netstate.linkTesting,
                  Gen.Netstate.linkUnknown, Gen.Netstate.linkDormant, Gen.Netstate.linkNotPresent,
                  Gen.Netstate.linkLowerLayerDown][k.val]! ≠ 0) ↔ m.val.testBit k.val = true := by
  intro m k
  have : [Gen.Netstate.linkUp, Gen.Netstate.linkDown, Gen.Netstate.linkTesting,
          Gen.Netstate.linkUnknown, Gen.Netstate.linkDormant, Gen.Netstate.linkNotPresent,
          Gen.Netstate.linkLowerLayerDown][k.val]! = 2 ^ k.val := by revert k; decide
  rw [this]
  exact and_two_pow_ne_zero_iff m.val k.val

/-! ### the model meets the oracle -/

private theorem holdsFrom_run (ops : List Op) : ∀ (st : State) (e : Bool), wf e ops = true →
    Spec.C19.holdsFrom st.length ops (run st ops).2 ((finals (run st ops).1).drop st.length) = true := by
  induction ops with
  | nil =>
    intro st e _
    simp [run, Spec.C19.holdsFrom, finals]
  | cons op ops ih =>
    intro st e hwf
    rw [wf_cons, Bool.and_eq_true] at hwf
    have ih' := ih (step st op).1 _ hwf.2
    rw [step_length] at ih'
    cases op with
    | subscribe i m =>
      -- the new subscriber's verdict, from `sub_inv`
      obtain ⟨s', hs', hok, hp, hc, hacc⟩ :=
        sub_inv st.length ops _ _ {} _ (subscribe_getElem? st i m) ⟨rfl, rfl, rfl, rfl⟩ hwf.2 (fun _ => rfl)
      show Spec.C19.holdsFrom _ _ (run (subscribe st i m) ops).2
        ((finals (run (subscribe st i m) ops).1).drop st.length) = true
      rw [finals_drop hs']
      simp only [Spec.C19.holdsFrom, Bool.and_eq_true]
      refine ⟨?_, ih'⟩
      unfold Spec.C19.holdsSub
      simp [hok, hp, hc, hacc]
    | _ => exact ih'

/-- The model's observations on every well-formed history — what each `drain` returned and the
    final read-out of every channel — satisfy the oracle that the check evaluates on the
    implementation's observations. -/
theorem holds_model (ops : List Op) (h : wf false ops = true) :
    Spec.C19.holds ops (run [] ops).2 (finals (run [] ops).1) = true := by
  have := holdsFrom_run ops [] false h
  simpa [Spec.C19.holds] using this

/-! ### non-vacuity -/

/-- A concrete history: subscriber 0 wants everything on interface 0, subscriber 1 only
    `LinkDown` there, subscriber 2 everything on interface 1.  Ten changes on interface 0 in one
    call: subscriber 0 keeps the first 8 (2 dropped), subscriber 1 the two `LinkDown`s,
    subscriber 2 nothing; a drain of 3 frees room for later changes; after the end of the watch
    all three are closed once and the buffered events are still there; the oracle accepts it. -/
example :
    let ops : List Op :=
      [.subscribe 0 127, .subscribe 0 2, .subscribe 1 127,
       .notify [(0, [1, 2, 4, 8, 16, 32, 64, 1, 2, 4])],
       .drain 0 3,
       .notify [(0, [64, 32]), (7, [1])],
       .endWatch, .drain 1 9]
    wf false ops = true ∧
    (run [] ops).2 = [{ got := [1, 2, 4], closed := false }, { got := [2, 2], closed := true }] ∧
    finals (run [] ops).1 =
      [{ got := [8, 16, 32, 64, 1, 64, 32], closed := true }, { got := [], closed := true },
       { got := [], closed := true }] ∧
    closesOf (run [] ops).1 = [1, 1, 1] ∧
    offered 0 127 (ops.drop 1) = [1, 2, 4, 8, 16, 32, 64, 1, 2, 4, 64, 32] ∧
    Spec.C19.holds ops (run [] ops).2 (finals (run [] ops).1) = true ∧
    -- the oracle rejects a lost event, a reordering, a queued ninth event and a missing close
    Spec.C19.holds ops [{ got := [1, 2, 4], closed := false }, { got := [2], closed := true }]
      (finals (run [] ops).1) = false ∧
    Spec.C19.holds ops (run [] ops).2
      [{ got := [8, 16, 32, 64, 1, 32, 64], closed := true }, { got := [], closed := true },
       { got := [], closed := true }] = false ∧
    Spec.C19.holds ops (run [] ops).2
      [{ got := [8, 16, 32, 64, 1, 2, 64, 32], closed := true }, { got := [], closed := true },
       { got := [], closed := true }] = false ∧
    Spec.C19.holds ops (run [] ops).2
      [{ got := [8, 16, 32, 64, 1, 64, 32], closed := true }, { got := [], closed := true },
       { got := [], closed := false }] = false := by
  decide

end Corerad.Props.C19
