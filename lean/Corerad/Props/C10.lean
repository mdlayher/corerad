/-
  C10 — failures tear the interface task down, recover per policy; never half-alive.
  This file: the goroutine-group part (every failure stops every activity of the task
  together).  The dialer part (classification, back-off, ≤ 50 attempts, prompt cancellation)
  is in Props/C10Dialer.lean; receive timeouts are in Props/C09.lean (`timeouts_general`); the group
  refined by the request channel is in Props/C10Queue.lean, the readiness test of conn.go in
  Props/C10Check.lean.
-/
import Corerad.Model.Group
import Corerad.Lemmas.Run

namespace Corerad.Props.C10

open Corerad Corerad.Model.Group

/-- `Listen` cancels its interrupt goroutine before waiting for it (extracted from the order of
    the deferred calls; fails to build on a tree with the old order) -/
theorem gen_cancel_before_wait : Gen.Listener.cancelBeforeWait = true := by decide

/-- inductive invariant of the group with the repaired defer order -/
structure Inv (x : St) : Prop where
  i_dl : x.i = true → x.dl = true
  cw_ctx : x.l = .cancelWait → x.ctxDone = true
  done_ctx : x.l = .done → x.ctxDone = true
  ew_lctx : x.l = .errWait → x.lctx = true
  ret_all : x.ret = true → x.l = .done ∧ x.i = true ∧ x.s = true ∧ x.m = true ∧ x.w = true

theorem inv_init (mon uo : Bool) : Inv (init mon uo) := by
  constructor <;> simp [init]

theorem inv_step (x y : St) (e : Ev) (h : Inv x) (hs : step true x e = some y) : Inv y := by
  -- per clause: the event leaves its fields alone, or its guard `hc` re-establishes it, or the new fields
  -- make it true by computation
  cases e <;> obtain ⟨hc, rfl⟩ := Run.of_guarded hs <;> exact
    { i_dl := by first | exact h.i_dl | simp
      cw_ctx := by first | exact h.cw_ctx | exact fun _ => hc.2.1 | simp [St.ctxDone]
      done_ctx := by first | exact h.done_ctx | exact fun _ => h.cw_ctx hc.1 | simp [St.ctxDone]
      ew_lctx := by first | exact h.ew_lctx | simp
      -- once the group has returned every guard but that of `cancelParent` fails: `simp_all` finds the
      -- clash with `h.ret_all hr`; the guard of `groupReturn` is the clause itself
      ret_all := by first | exact h.ret_all | (intro hr; have := h.ret_all hr; simp_all) | simp [hc] }

theorem isRun (cbw : Bool) : Run.Of (step cbw) (run cbw) :=
  ⟨fun _ => rfl, fun x e es => by rw [run]; cases step cbw x e <;> rfl⟩

theorem flag_of_disabled {b : Bool} {p : Prop} (g : ¬((!b) = true ∧ p)) (hp : p) : b = true := by
  cases b
  · exact absurd ⟨rfl, hp⟩ g
  · rfl

/-- `no_half_alive` on one state -/
theorem returned_of_quiescent (x : St) (h : Inv x) (hq : quiescent true x = true) (ht : triggered x = true) :
    x.ret = true ∧ x.l = .done ∧ x.i = true ∧ x.s = true ∧ x.m = true ∧ x.w = true := by
  dsimp only [quiescent, internal, List.all, step] at hq
  simp only [Run.isNone_guarded, Bool.and_true, Bool.and_eq_true] at hq
  -- one hypothesis per internal event, named after it: its guard fails
  obtain ⟨iRun, lSeeCancel, lCancelWaitDone, lErrDefer, lErrWaitDone, sRet, mRet, wRet, groupReturn⟩ := hq
  -- the listener cannot rest on its error path: `cancel()` has run, so the interrupt goroutine
  -- returns and `eg.Wait()` with it; hence the trigger is a cancelled context
  have hc : x.ctxDone = true := by
    cases hl : x.l with
    | reading => simpa [triggered, St.ctxDone, hl] using ht
    | errPath => exact absurd hl lErrDefer
    | errWait => exact absurd ⟨hl, flag_of_disabled iRun (by simp [h.ew_lctx hl])⟩ lErrWaitDone
    | cancelWait => exact h.cw_ctx hl
    | done => exact h.done_ctx hl
  -- under a cancelled context everything winds down
  have hi : x.i = true := flag_of_disabled iRun (by simp [hc])
  have hl : x.l = .done := by
    cases hl : x.l with
    | reading => exact absurd ⟨hl, hc, h.i_dl hi⟩ lSeeCancel
    | errPath => exact absurd hl lErrDefer
    | errWait => exact absurd ⟨hl, hi⟩ lErrWaitDone
    | cancelWait => exact absurd ⟨hl, hi⟩ lCancelWaitDone
    | done => rfl
  have hs : x.s = true := flag_of_disabled sRet hc
  have hm : x.m = true := flag_of_disabled mRet hc
  have hw : x.w = true := flag_of_disabled wRet hc
  refine ⟨?_, hl, hi, hs, hm, hw⟩
  cases hret : x.ret
  · exact absurd ⟨hl, hi, hs, hm, hw, by simp [hret]⟩ groupReturn
  · rfl

/-- **Never half-alive**: in every reachable state of an advertiser's or monitor's group, if
    something has failed or the task was cancelled and no internal step is possible any more,
    then every goroutine has returned and the group itself has returned. -/
theorem no_half_alive (mon uo : Bool) (es : List Ev) (x : St)
    (hr : run true (init mon uo) es = some x) (hq : quiescent true x = true) (ht : triggered x = true) :
    x.ret = true ∧ x.l = .done ∧ x.i = true ∧ x.s = true ∧ x.m = true ∧ x.w = true :=
  returned_of_quiescent x ((isRun true).preserved inv_step (inv_init mon uo) hr) hq ht

/-- every internal step strictly decreases the remaining work: teardown terminates -/
theorem teardown_terminates (cbw : Bool) (x y : St) (e : Ev) (he : e ∈ internal)
    (hs : step cbw x e = some y) : work y < work x := by
  simp only [internal, List.mem_cons, List.mem_nil_iff, or_false] at he
  rcases he with rfl | rfl | rfl | rfl | rfl | rfl | rfl | rfl | rfl <;>
    obtain ⟨hc, rfl⟩ := Run.of_guarded hs <;> dsimp only [work] <;>
    -- cancel the summands of the fields an event leaves alone before looking into them
    simp_all [↓Nat.add_lt_add_iff_right, ↓Nat.add_lt_add_iff_left]

/-- The unrepaired defer order (F-7): after a single read error the group is quiescent with the
    listener stuck, the scheduler and the multicast loop still running — half-alive. -/
theorem half_alive_witness :
    ∃ y, run false (init false false) [.readErr, .lErrDefer] = some y ∧
      quiescent false y = true ∧ triggered y = true ∧ y.ret = false ∧ y.s = false ∧ y.m = false := by
  refine ⟨_, rfl, ?_⟩
  decide

/-- Non-vacuity: with the repaired order the same fault runs to completion. -/
example :
    ∃ y, run true (init false false)
      [.readErr, .lErrDefer, .iRun, .lErrWaitDone, .sRet, .mRet, .wRet, .groupReturn] = some y ∧
      quiescent true y = true ∧ triggered y = true ∧ y.ret = true := by
  refine ⟨_, rfl, ?_⟩
  decide

end Corerad.Props.C10
