/-
  TransC10 — the back-off arithmetic of `(*Dialer).init` (internal/system/dialer.go) as translated
  from the current source text (`Corerad.Gen.Trans.Dialer_init_*`: the loop header
  `for i := 0; i < attempts; i++`, `var delay time.Duration`, the argument of `time.After(delay)`
  and the body of that select case, `delay = time.Duration(i+1) * 250 * time.Millisecond; if delay >
  maxDelay { delay = maxDelay }`) equals what the dialer model uses: `Model.Dialer.delay i` is the
  wait before the `i`-th `DialFunc` call of a re-initialisation, `Model.Dialer.attempts` the bound.
-/
import Corerad.Gen.Trans
import Corerad.Lemmas.Dialer
import Corerad.Lemmas.Translated

namespace Corerad.Props.TransC10

open Corerad

/-- the first wait is the zero value of `var delay time.Duration` -/
theorem dialer_delayInit_equiv : Gen.Trans.Dialer_init_delayInit = Model.Dialer.delay 0 := by
  decide

/-- `time.After` waits for the current value of `delay`, nothing else -/
theorem dialer_after_equiv (d : Dur) : Gen.Trans.Dialer_init_after (d) = d := by
  simp only [Gen.Trans.Dialer_init_after]

/-- in iteration `i` the case body computes the wait of iteration `i + 1`, whatever `delay` was -/
theorem dialer_afterBody_equiv (i : Nat) (d : Dur) :
    Gen.Trans.Dialer_init_afterBody (i := i) (delay := d) = Model.Dialer.delay (i + 1) := by
  simp only [Gen.Trans.Dialer_init_afterBody, Model.Dialer.delay, Model.Dialer.step, Model.Dialer.maxDelay,
    Gen.Dialer.step, Gen.Dialer.maxDelay, ms]
  split_leaves

/-- the loop header: `i` runs 0, 1, 2, … while `i < attempts` -/
theorem dialer_loopStep_equiv (i : Nat) :
    Gen.Trans.Dialer_init_loopInit = 0 ∧ Gen.Trans.Dialer_init_loopPost (i : Int) = (i : Int) + 1 := by
  simp only [Gen.Trans.Dialer_init_loopInit, Gen.Trans.Dialer_init_loopPost, and_self]

/-- at most `attempts` iterations, i.e. `DialFunc` calls, per re-initialisation -/
theorem dialer_loopCond_equiv (i : Nat) :
    Gen.Trans.Dialer_init_loopCond (i : Int) = decide (i < Model.Dialer.attempts) := by
  rw [Bool.eq_iff_iff]
  simp only [Gen.Trans.Dialer_init_loopCond, decide_eq_true_eq]
  simp only [Model.Dialer.attempts, Gen.Dialer.attempts]
  constructor <;> (intro _; omega)

/-- the value of `delay` at the `time.After` of iteration `n`, following the translated loop -/
def waitSeq : Nat → Dur
  | 0 => Gen.Trans.Dialer_init_delayInit
  | n + 1 => Gen.Trans.Dialer_init_afterBody (i := n) (delay := waitSeq n)

/-- the whole wait sequence of the translated loop is the model's `delay` -/
theorem dialer_waitSeq_equiv (n : Nat) :
    Gen.Trans.Dialer_init_after (waitSeq n) = Model.Dialer.delay n := by
  cases n with
  | zero => simp only [waitSeq, dialer_after_equiv, dialer_delayInit_equiv]
  | succ n => simp only [waitSeq, dialer_after_equiv, dialer_afterBody_equiv]

/-- non-trivial instance: the wait before the 12th call is capped (12 · 250 ms = 3 s is not above
    the cap, 13 · 250 ms is), on both sides; 50 calls at most -/
example : Gen.Trans.Dialer_init_after (waitSeq 12) = 3 * second ∧ Model.Dialer.delay 12 = 3 * second
    ∧ Gen.Trans.Dialer_init_after (waitSeq 11) = 2750 * ms ∧ Model.Dialer.delay 11 = 2750 * ms
    ∧ Gen.Trans.Dialer_init_after (waitSeq 13) = 3 * second ∧ Model.Dialer.delay 13 = 3 * second
    ∧ Gen.Trans.Dialer_init_loopCond 49 = true ∧ Gen.Trans.Dialer_init_loopCond 50 = false
    ∧ Model.Dialer.attempts = 50 := by
  decide

/-! ### the error classification of `(*Dialer).init` (tools/extract/translate_switch.go)

`Gen.Trans.Dialer_init_switch` is the tagless `switch` of `init`, re-translated on every run, over the
six tests it applies to the error value (`errors.As` to `*os.SyscallError` / `*fs.PathError`,
`errors.Is` with `os.ErrPermission` / `ErrLinkNotReady` / `ErrLinkChange`, `err == nil`):
0 = no error, 1 = fatal, 2 = recoverable (falls through to the retry loop).  -/

/-- the decision in closed form: recoverable iff a non-permission system call error (whichever of the
    two error types reports it), or — not being a system call error — link-not-ready or link-change;
    no error iff none of those and `err == nil`; fatal otherwise.  Moving a clause, dropping the
    permission test, classing `*fs.PathError` apart from `*os.SyscallError` (finding F-30), or
    testing `err == nil` first changes the translated definition and this stops checking. -/
theorem init_switch_spec (sys path perm lnr lc isNil : Bool) :
    Gen.Trans.Dialer_init_switch (As_os_SyscallError := sys) (As_fs_PathError := path)
        (Is_os_ErrPermission := perm) (Is_ErrLinkNotReady := lnr) (Is_ErrLinkChange := lc) (err_nil := isNil)
      = (if sys || path then (if perm then 1 else 2)
         else if lnr || lc then 2
         else if isNil then 0 else 1) := by
  unfold Gen.Trans.Dialer_init_switch
  cases lnr <;> simp

/-- the tests as they come out for the error classes of the model's `DialOut` (`viaPath`: the system
    call error is reported as a `*fs.PathError` rather than an `*os.SyscallError`) -/
def dialOutCode (o : Model.Dialer.DialOut) (viaPath : Bool) : Nat :=
  let isSys := o == .syscall || o == .permission
  Gen.Trans.Dialer_init_switch (As_os_SyscallError := isSys && !viaPath) (As_fs_PathError := isSys && viaPath)
    (Is_os_ErrPermission := o == .permission) (Is_ErrLinkNotReady := o == .linkNotReady)
    (Is_ErrLinkChange := false) (err_nil := o == .ok)

/-- **the translated switch decides the first dial's error exactly as `Model.Dialer.DialOut.next`**:
    recoverable classes enter the retry loop, the others end `Dial` with that error -/
theorem init_switch_dialOut (o : Model.Dialer.DialOut) (viaPath : Bool) (k : Nat) (ho : o ≠ .ok) :
    (dialOutCode o viaPath = 2 ↔ o.next k = Model.Dialer.enterRetry 0) ∧
    (dialOutCode o viaPath = 1 ↔ o.next k = .inl (.dial k)) ∧
    dialOutCode o viaPath ≠ 0 := by
  cases o <;> cases viaPath <;>
    simp [dialOutCode, init_switch_spec, Model.Dialer.DialOut.next, Model.Dialer.enterRetry_zero] at ho ⊢

/-- the same for what the task returned (`Model.Dialer.TaskOut.next`), for every class whose error
    reaches `init` (a task that returned nil does not; `context.Canceled` itself is classed fatal here
    and mapped to nil by `Dial`) -/
def taskOutCode (t : Model.Dialer.TaskOut) (viaPath : Bool) : Nat :=
  let isSys := t == .syscall || t == .permission
  Gen.Trans.Dialer_init_switch (As_os_SyscallError := isSys && !viaPath) (As_fs_PathError := isSys && viaPath)
    (Is_os_ErrPermission := t == .permission) (Is_ErrLinkNotReady := false)
    (Is_ErrLinkChange := t == .linkChange) (err_nil := false)

theorem init_switch_taskOut (t : Model.Dialer.TaskOut) (viaPath : Bool) (k : Nat)
    (h1 : t ≠ .nil) (h2 : t ≠ .cancelled) (h3 : t ≠ .cancelledErr) :
    (taskOutCode t viaPath = 2 ↔ t.next k = Model.Dialer.enterRetry 0) ∧
    (taskOutCode t viaPath = 1 ↔ t.next k = .inl (.task k)) := by
  cases t <;> cases viaPath <;>
    simp [taskOutCode, init_switch_spec, Model.Dialer.TaskOut.next, Model.Dialer.enterRetry_zero] at h1 h2 h3 ⊢

/-- non-vacuity: ENETDOWN from sendmsg re-dials, EPERM does not, a PathError{ENOENT} re-dials,
    a link change re-dials, a plain error does not -/
example :
    dialOutCode .syscall false = 2 ∧ dialOutCode .permission false = 1 ∧ dialOutCode .syscall true = 2 ∧
    dialOutCode .permission true = 1 ∧ dialOutCode .linkNotReady false = 2 ∧ dialOutCode .other false = 1 ∧
    taskOutCode .linkChange false = 2 ∧ taskOutCode .retries false = 1 ∧ taskOutCode .other true = 1 := by
  decide

end Corerad.Props.TransC10
