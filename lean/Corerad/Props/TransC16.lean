/-
  TransC16 — the Go → Lean translations of `(*Prefix).lifetimes` and `(*Route).lifetime`
  (internal/plugin/plugin.go), regenerated into `Corerad.Gen.Trans` from the current source text
  on every run, equal the hand-written models `Model.prefixLifetimes` / `Model.routeLifetime`.

  Reading of the translation (tools/extract/translate.go):
  * every `TimeNow()` call site is its own parameter `now0`, `now1`, … in source order.  The
    theorems below supply exactly ONE clock reading; a rewrite that reads the clock twice yields a
    definition with a further parameter and these statements no longer type-check.
  * `Epoch.IsZero()` is the Boolean parameter `Epoch_IsZero` (an `Int` timeline has no
    distinguished zero instant); `panic` is `none`.  Equivalence is stated for a non-zero epoch
    (`Epoch_IsZero := false`; `Props.C16.gen_epoch_is_start_time` is why the daemon never has a
    zero epoch), and the panic is characterised separately: it happens iff the stanza is
    deprecated and the epoch is zero.
-/
import Corerad.Gen.Trans
import Corerad.Model.Lifetime
import Corerad.Lemmas.Translated

namespace Corerad.Props.TransC16

open Corerad

/-- `(*Prefix).lifetimes()` with a non-zero epoch and the single clock reading `now`. -/
theorem prefixLifetimes_equiv (deprecated : Bool) (epoch : Time) (valid pref : Dur) (now : Time) :
    Gen.Trans.Prefix_lifetimes (Deprecated := deprecated) (Epoch := epoch) (Epoch_IsZero := false)
        (ValidLifetime := valid) (PreferredLifetime := pref) (now0 := now)
      = some (Model.prefixLifetimes deprecated epoch valid pref now) := by
  cases deprecated <;> simp [Gen.Trans.Prefix_lifetimes, Model.prefixLifetimes, Model.lifetimeAt] <;> split_leaves

/-- `(*Prefix).lifetimes()` panics iff the prefix is deprecated and its epoch is the zero time. -/
theorem prefixLifetimes_panics_iff (deprecated isZero : Bool) (epoch : Time) (valid pref : Dur) (now : Time) :
    Gen.Trans.Prefix_lifetimes (Deprecated := deprecated) (Epoch := epoch) (Epoch_IsZero := isZero)
        (ValidLifetime := valid) (PreferredLifetime := pref) (now0 := now) = none
      ↔ (deprecated = true ∧ isZero = true) := by
  cases deprecated <;> cases isZero <;> simp [Gen.Trans.Prefix_lifetimes]

/-- `(*Route).lifetime()` with a non-zero epoch and the single clock reading `now`. -/
theorem routeLifetime_equiv (deprecated : Bool) (epoch : Time) (lt : Dur) (now : Time) :
    Gen.Trans.Route_lifetime (Deprecated := deprecated) (Epoch := epoch) (Epoch_IsZero := false)
        (Lifetime := lt) (now0 := now)
      = some (Model.routeLifetime deprecated epoch lt now) := by
  cases deprecated <;> simp [Gen.Trans.Route_lifetime, Model.routeLifetime, Model.lifetimeAt] <;> split_leaves

/-- `(*Route).lifetime()` panics iff the route is deprecated and its epoch is the zero time. -/
theorem routeLifetime_panics_iff (deprecated isZero : Bool) (epoch : Time) (lt : Dur) (now : Time) :
    Gen.Trans.Route_lifetime (Deprecated := deprecated) (Epoch := epoch) (Epoch_IsZero := isZero)
        (Lifetime := lt) (now0 := now) = none
      ↔ (deprecated = true ∧ isZero = true) := by
  cases deprecated <;> cases isZero <;> simp [Gen.Trans.Route_lifetime, ← apply_ite some]

/-- non-trivial instance: deprecated prefix, valid 100 s / preferred 40 s after epoch 1000 s, read
    at 1060 s: the preferred lifetime has run out, 40 s of validity remain — on both sides -/
example :
    Gen.Trans.Prefix_lifetimes (Deprecated := true) (Epoch := 1000 * second) (Epoch_IsZero := false)
        (ValidLifetime := 100 * second) (PreferredLifetime := 40 * second) (now0 := 1060 * second)
      = some (40 * second, 0)
    ∧ Model.prefixLifetimes true (1000 * second) (100 * second) (40 * second) (1060 * second)
      = (40 * second, 0) := by
  decide

/-- non-trivial instance: deprecated route, 1 ns before its deadline -/
example :
    Gen.Trans.Route_lifetime (Deprecated := true) (Epoch := 5) (Epoch_IsZero := false)
        (Lifetime := 30 * second) (now0 := 30 * second + 4) = some 1
    ∧ Model.routeLifetime true 5 (30 * second) (30 * second + 4) = 1 := by
  decide

end Corerad.Props.TransC16
