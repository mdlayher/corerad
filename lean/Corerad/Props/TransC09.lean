/-
  TransC09 — the retry arithmetic of `(*listener).receiveRetry` (internal/corerad/listener.go) as
  translated from the current source text (`Corerad.Gen.Trans.receiveRetry_*`: the loop header
  `for i := 0; i < retries;` and the argument of `time.After(time.Duration(i) * 50 * time.Millisecond)`)
  equals what the listener model `Model.listen` / `Model.listenSrc` uses: back-off `i * unit` after
  the `i`-th consecutive timeout and exhaustion when `i + 1 ≥ retries`, with the regenerated
  constants `Gen.Listener.backoffUnit`, `Gen.Listener.retries`.
-/
import Corerad.Gen.Trans
import Corerad.Model.Listener

namespace Corerad.Props.TransC09

open Corerad

/-- the wait requested after a timeout in attempt `i` is `i · unit`, as in `Model.listen` -/
theorem receiveRetry_backoff_equiv (i : Nat) :
    Gen.Trans.receiveRetry_after (i : Int) = (i : Int) * Gen.Listener.backoffUnit := by
  simp only [Gen.Trans.receiveRetry_after, Gen.Listener.backoffUnit, ms]
  omega

/-- the attempt counter starts at 0 (`Model.listenSrc` starts `Model.listen` at attempt 0) -/
theorem receiveRetry_loopInit_equiv : Gen.Trans.receiveRetry_loopInit = 0 := by
  simp only [Gen.Trans.receiveRetry_loopInit]

/-- the loop header itself never advances the attempt counter: only the timeout branch does
    (`i++` after the back-off), so messages with a bad hop limit do not consume attempts -/
theorem receiveRetry_loopPost_equiv (i : Int) : Gen.Trans.receiveRetry_loopPost i = i := by
  simp only [Gen.Trans.receiveRetry_loopPost]

/-- the loop continues exactly while fewer than `retries` attempts were consumed … -/
theorem receiveRetry_loopCond_equiv (i : Nat) :
    Gen.Trans.receiveRetry_loopCond (i : Int) = decide (i < Gen.Listener.retries) := by
  rw [Bool.eq_iff_iff]
  simp only [Gen.Trans.receiveRetry_loopCond, decide_eq_true_eq]
  simp only [Gen.Listener.retries]
  constructor <;> (intro _; omega)

/-- … so the loop is left after the timeout of attempt `i` exactly when the model reports
    `retriesExhausted` (`i + 1 ≥ retries` in `Model.listen`) -/
theorem receiveRetry_exhausted_equiv (i : Nat) :
    Gen.Trans.receiveRetry_loopCond ((i : Int) + 1) = false ↔ i + 1 ≥ Gen.Listener.retries := by
  rw [← Int.natCast_succ, receiveRetry_loopCond_equiv, decide_eq_false_iff_not, Nat.not_lt]

/-- non-trivial instance: the 4th consecutive timeout (attempt index 3) waits 150 ms, and a 5th
    attempt (index 4) is still made while index 5 is not — on both sides -/
example : Gen.Trans.receiveRetry_after 3 = 150 * ms
    ∧ (Model.listenSrc [.timeout, .timeout, .timeout, .timeout]).waits = [0, 50 * ms, 100 * ms, 150 * ms]
    ∧ Gen.Trans.receiveRetry_loopCond 4 = true ∧ Gen.Trans.receiveRetry_loopCond 5 = false
    ∧ (Model.listenSrc [.timeout, .timeout, .timeout, .timeout]).result = .running
    ∧ (Model.listenSrc [.timeout, .timeout, .timeout, .timeout, .timeout]).result = .retriesExhausted := by
  decide

end Corerad.Props.TransC09
