/-
  C16, parser side — what the configuration parser guarantees about every deprecated stanza it
  accepts: finite, positive lifetimes with preferred ≤ valid.  These are exactly the hypotheses
  under which the countdown theorems of Props/C16.lean are stated (`pref_le_valid`, `holds_prefix`),
  and without finiteness the countdown would not reach zero within the wire format's range.
  Derived from the per-stanza refinement of Props/C02.lean (`parsePrefix_eq`, `parseRoute_eq`).
-/
import Corerad.Props.C02

namespace Corerad.Props.C16Parse

open Corerad.Model Corerad.Spec.C02 Corerad.Props.C02

/-- Every prefix stanza the parser accepts has `0 < preferred ≤ valid ≤ infinity`; a deprecated
    one has both lifetimes finite. -/
theorem accepted_prefix_lifetimes (raw : RawPrefix) (hwf : wfPfx raw.pstr = true)
    (auto : Bool) (p : Prefix) (ol au : Bool) (valid preferred : Dur) (dep : Bool)
    (h : parsePrefix raw = some (.pfx auto p ol au valid preferred dep)) :
    0 < preferred ∧ preferred ≤ valid ∧ valid ≤ infinity ∧ dep = raw.deprecated ∧
    (dep = true → valid < infinity ∧ preferred < infinity) := by
  obtain ⟨hdoc, h⟩ := Accept.accept_eq_some.mp (parsePrefix_eq raw hwf ▸ h)
  obtain ⟨q, v, pr, -, hv, hpr, -, -, hvp, hprp, hle, hdep⟩ := docPrefix_parts raw hdoc
  simp only [expPrefix, Plugin.pfx.injEq, hv, hpr, Option.getD_some] at h
  obtain ⟨-, -, -, -, rfl, rfl, rfl⟩ := h
  rw [inPos_iff] at hvp hprp
  rw [show infinity = maxLifetime from rfl]
  exact ⟨hprp.1, hle, hvp.2, rfl, fun hd => by have := hdep hd; omega⟩

/-- Every route stanza the parser accepts has `0 < lifetime ≤ infinity`, finite when deprecated. -/
theorem accepted_route_lifetime (raw : RawRoute) (hwf : wfPfx raw.pstr = true)
    (auto : Bool) (p : Prefix) (pref : Nat) (lt : Dur) (dep : Bool)
    (h : parseRoute raw = some (.route auto p pref lt dep)) :
    0 < lt ∧ lt ≤ infinity ∧ dep = raw.deprecated ∧ (dep = true → lt < infinity) := by
  obtain ⟨hdoc, h⟩ := Accept.accept_eq_some.mp (parseRoute_eq raw hwf ▸ h)
  obtain ⟨q, l, pc, -, hl, -, -, hlp, hdep⟩ := docRoute_parts raw hdoc
  simp only [expRoute, Plugin.route.injEq, hl, Option.getD_some] at h
  obtain ⟨-, -, -, rfl, rfl⟩ := h
  rw [inPos_iff] at hlp
  rw [show infinity = maxLifetime from rfl]
  exact ⟨hlp.1, hlp.2, rfl, fun hd => by have := hdep hd; omega⟩

end Corerad.Props.C16Parse
