/-
  TransC18 — the Go → Lean translation of `(*Monitor).handle` (internal/corerad/monitor.go),
  regenerated into `Corerad.Gen.Trans.Monitor_handle` from the current source text on every run — the
  list of metric operations the function performs for one received message, in program order — equals
  the hand-written `Model.Monitor.monitorHandle`, the function every C18 theorem (`Props/C18`) is about,
  for every message, sender and receipt time.

  Only equivalence theorems live here.
-/
import Corerad.Gen.Trans

namespace Corerad.Props.TransC18

open Corerad.Model.Monitor

theorem Monitor_handle_equiv (msg : Msg) (host : Nat) (now : Time) :
    Gen.Trans.Monitor_handle (msg := msg) (msgType := msg.typ) (host := host) (now := now)
      = monitorHandle msg host now := by
  cases msg <;> rfl

/-- non-trivial instance: an RA with a router lifetime and two prefix options (one with a length no
    IPv6 prefix can have) yields 1 + 2 + 1 + 2·4 operations, the same on both sides -/
example :
    let ra : RA := { managed := true, other := false, routerLifetime := 1800 * second,
                     options := [.pi { addr := 1, len := 64, onLink := true, autonomous := true, preferred := 4 * hour, valid := 24 * hour },
                                 .other 25,
                                 .pi { addr := 0, len := 200, onLink := false, autonomous := true, preferred := 0, valid := infinity }] }
    (Gen.Trans.Monitor_handle (.ra ra) raType 7 1500000000).length = 12 ∧
    Gen.Trans.Monitor_handle (.ra ra) raType 7 1500000000 = monitorHandle (.ra ra) 7 1500000000 := by
  decide +kernel

end Corerad.Props.TransC18
