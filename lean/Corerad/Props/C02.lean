/-
  C02 — the configuration parser accepts exactly the documented configurations and resolves
  every default exactly as documented.

  Refinement of the procedural model `Model.parseConfig` (Go control flow, early returns) to the
  declarative specification `Spec.C02.documented` / `Spec.C02.expConfig`:

      parseConfig c = if documented c then some (expConfig c) else none

  for every raw document `c` whose successfully parsed `prefix`/`route` CIDRs have at most 128
  bits (`wfConfig`; implied by `netip.Prefix.IsValid`, which `netip.ParsePrefix` guarantees).
  The hypothesis is necessary: `parse_eq_spec_needs_wf` below exhibits an ill-formed input on
  which model and specification differ.

  Per-stanza lemmas `parseX raw = if docX raw then some (expX raw) else none` compose, through the
  plugin list, the interface, its names and the `seen` set of the interface loop (against
  `nodupNat (allNames …)`), to the equation above.
  Helper lemmas (lists, the `rdnss` server loop, the two halves `docScalars`, `docPlugins` of
  `docAdvertising`) are in `Corerad.Lemmas.Config`; the early returns of each parser are folded by
  `Corerad.Lemmas.Accept`.
  The model reads the constants regenerated from the Go source (`Gen.*`), the specification uses
  literals: `gen_constants` (proved by `rfl`) ties them together and breaks if the source changes.
-/
import Corerad.Lemmas.Config
import Corerad.Lemmas.Float
import Corerad.Lemmas.Dur

namespace Corerad.Props.C02

open Corerad.Model Corerad.Spec.C02

/-- the constants extracted from the Go source are the documented ones (breaks if the source changes) -/
theorem gen_constants :
    Gen.Config.defaultMaxInterval = 600 * second ∧
    Gen.Config.maxIntervalLo = 4 * second ∧ Gen.Config.maxIntervalHi = 1800 * second ∧
    Gen.Config.reachableLo = 0 ∧ Gen.Config.reachableHi = hour ∧
    Gen.Config.retransLo = 0 ∧ Gen.Config.retransHi = hour ∧
    Gen.Config.hopLimitLo = 0 ∧ Gen.Config.hopLimitHi = 255 ∧ Gen.Config.defaultHopLimit = 64 ∧
    Gen.Config.mtuLo = 0 ∧ Gen.Config.mtuHi = 65536 ∧
    Gen.Plugin.maxPref64Lifetime = 65528 * second :=
  ⟨rfl, rfl, rfl, rfl, rfl, rfl, rfl, rfl, rfl, rfl, rfl, rfl, rfl⟩

theorem gen_maxPref64Lifetime : Gen.Plugin.maxPref64Lifetime = 65528 * second := rfl

theorem gen_mtu : Gen.Config.mtuLo = 0 ∧ Gen.Config.mtuHi = 65536 := ⟨rfl, rfl⟩

/-- the source scales the duration itself (regenerated; the repair of F-20) -/
theorem gen_pref64_scales_duration : Gen.Plugin.pref64ScalesDuration = true := rfl

/-! ### per-stanza refinement -/

theorem parsePrefix_eq (p : RawPrefix) (hwf : wfPfx p.pstr = true) :
    parsePrefix p = if docPrefix p then some (expPrefix p) else none := by
  unfold parsePrefix docPrefix expPrefix
  simp only [Option.bind_eq_bind, Option.bind_none, Option.pure_def, parseDuration_eq,
    show autoPrefix = wildPrefix from rfl]
  rcases pfx_cases wildPrefix rfl (by decide) p.pstr hwf with ⟨h0, h1⟩ | ⟨p0, q, h0, hq, h1, h6, hb⟩
  · rw [h0, h1]; rfl
  · rw [h0, h1]
    simp only [Option.bind_some, hq, Option.getD_some, Prefix.isSingleIP_of_is6 h6 hb]
    cases resolve p.valid (24 * hour) with
    | none => simp only [Option.bind_none, ite_self]; rfl
    | some v =>
      cases resolve p.preferred (4 * hour) with
      | none => simp only [Option.bind_some, Option.bind_none, ite_self]; rfl
      | some pr =>
        simp only [Option.bind_some, Option.getD_some, Accept.reject_else, Accept.then_then]
        congr 1
        rw [inPos_eq, inPos_eq, show infinity = maxLifetime from rfl]
        -- the same clauses in another order, `inPos` being the `≠ 0` test and the range test together
        grind

theorem parseRoute_eq (r : RawRoute) (hwf : wfPfx r.pstr = true) :
    parseRoute r = if docRoute r then some (expRoute r) else none := by
  unfold parseRoute docRoute expRoute
  simp only [Option.bind_eq_bind, Option.bind_none, Option.pure_def, parseDuration_eq, parsePreference_eq,
    show autoRoute = wildRoute from rfl]
  rcases pfx_cases wildRoute rfl (by decide) r.pstr hwf with ⟨h0, h1⟩ | ⟨p0, q, h0, hq, h1, h6, hb⟩
  · rw [h0, h1]; rfl
  · rw [h0, h1]
    simp only [Option.bind_some, hq, Option.getD_some]
    cases prefCode r.preference with
    | none => simp only [Option.bind_none, ite_self]; cases resolve r.lifetime (24 * hour) <;> rfl
    | some pc =>
    cases resolve r.lifetime (24 * hour) with
    | none => simp only [Option.bind_some, Option.bind_none, ite_self]; rfl
    | some l =>
      simp only [Option.bind_some, Option.getD_some, Accept.reject_else, Accept.then_then]
      congr 1
      rw [inPos_eq, show infinity = maxLifetime from rfl]
      -- the same clauses in another order, `inPos` being the `≠ 0` test and the range test together
      grind

theorem parseRDNSS_eq (d : RawRDNSS) (maxI : Dur) :
    parseRDNSS d maxI = if docRDNSS maxI d then some (expRDNSS maxI d) else none := by
  unfold parseRDNSS docRDNSS expRDNSS
  simp only [Option.bind_eq_bind, Option.bind_none, Option.pure_def, parseDuration_eq, parseServers_eq,
    Accept.bind_accept]
  cases resolve d.lifetime (3 * maxI) with
  | none => rfl
  | some l =>
    cases hs : d.servers with
    | nil =>
      simp only [Option.bind_some, Option.getD_some, List.isEmpty_nil, if_true, Accept.reject_else,
        show lifetimeInRange l = inNonneg l from rfl, Bool.decide_eq_true, Bool.not_not, List.all_nil, List.map_nil,
        List.filter_nil, List.length_nil, nodupIP, List.any_nil, Bool.or_false, Bool.and_true, Nat.zero_le,
        decide_true]
      rfl
    | cons a rest =>
      have hall : ((staticServers (a :: rest)).all fun _ => true) = true := by simp
      simp only [Option.bind_some, Option.getD_some, List.isEmpty_cons, Bool.false_eq_true, if_false, Bool.false_or,
        Accept.reject_else, Accept.then_then, show lifetimeInRange l = inNonneg l from rfl, Bool.decide_eq_true,
        Bool.not_not, Nat.add_zero, List.contains_nil, Bool.not_false, List.nil_append, hall, Bool.and_true,
        Bool.and_assoc]
      rfl

theorem parseDNSSL_eq (d : RawDNSSL) (maxI : Dur) :
    parseDNSSL d maxI = if docDNSSL maxI d then some (expDNSSL maxI d) else none := by
  unfold parseDNSSL docDNSSL expDNSSL hasDupOrEmpty
  simp only [Option.bind_eq_bind, Option.bind_none, Option.pure_def, parseDuration_eq, hasDup_eq]
  cases resolve d.lifetime (3 * maxI) with
  | none => rfl
  | some l =>
    simp only [Option.bind_some, Option.getD_some, Accept.reject_else, Accept.then_then,
      show lifetimeInRange l = inNonneg l from rfl, Bool.decide_eq_true, Bool.not_not, Bool.not_or,
      Bool.and_assoc]

theorem pref64_lifetime_eq (maxI : Dur) (h : 0 ≤ maxI) :
    Model.pref64Lifetime maxI = Spec.C02.pref64Lifetime maxI := by
  unfold Model.pref64Lifetime Model.pref64LifetimeDur Spec.C02.pref64Lifetime ceil8s
  rw [gen_pref64_scales_duration, if_pos rfl, gen_maxPref64Lifetime]
  exact capped_ceil (by decide) (by decide) (show 0 ≤ 3 * maxI by omega)

theorem parsePref64_eq (p : RawPref64) (maxI : Dur) (h : 0 ≤ maxI) :
    parsePref64 p maxI =
      if docPref64 p then some (Plugin.pref64 ((pref64Of p).getD wellKnown64) (Spec.C02.pref64Lifetime maxI))
      else none := by
  unfold parsePref64 docPref64
  rw [pref64_lifetime_eq maxI h]
  cases p with
  | unset => rfl
  | empty => rfl
  | str s =>
    cases s with
    | empty => rfl
    | bad => rfl
    | ok q =>
      simp only [pref64Of, parseIPPrefix_ok]
      by_cases hc : canonical6 q = true
      · simp only [if_pos hc]; rfl
      · simp only [if_neg hc]; rfl

theorem parsePlugins_eq (i : RawInterface) (maxI : Dur) (hwf : wfIface i = true) (hmax : 0 ≤ maxI) :
    parsePlugins i maxI = if docPlugins i maxI then some (expPlugins i maxI) else none := by
  rw [wfIface_iff] at hwf
  unfold parsePlugins docPlugins expPlugins
  simp only [Option.bind_eq_bind, Option.bind_none, Option.pure_def, gen_mtu.1, gen_mtu.2, Bool.or_eq_true,
    decide_eq_true_eq,
    mapM'_eq (d := docPrefix) (e := expPrefix) i.prefixes (fun x hx => parsePrefix_eq x (hwf.1 x hx)),
    mapM'_eq (d := docRoute) (e := expRoute) i.routes (fun x hx => parseRoute_eq x (hwf.2 x hx)),
    mapM'_eq (d := docRDNSS maxI) (e := expRDNSS maxI) i.rdnss (fun x _ => parseRDNSS_eq x maxI),
    mapM'_eq (d := docDNSSL maxI) (e := expDNSSL maxI) i.dnssl (fun x _ => parseDNSSL_eq x maxI),
    mapM'_eq (d := docPref64) (e := fun p => Plugin.pref64 ((pref64Of p).getD wellKnown64) (Spec.C02.pref64Lifetime maxI))
      i.pref64 (fun x _ => parsePref64_eq x maxI hmax), Accept.bind_accept]
  -- the overlap tests are the documented ones only on documented stanzas
  cases h1 : i.prefixes.all docPrefix with
  | false => rfl
  | true =>
    cases h3 : i.routes.all docRoute with
    | false => simp only [Bool.false_eq_true, if_false, Bool.true_and, Bool.and_false, Bool.false_and, ite_self]
    | true =>
      simp only [if_true, overlap_prefixes _ h1, overlap_routes _ h3, Bool.true_and]
      cases i.captivePortal with
      | empty =>
        simp only [Option.bind_some, Accept.reject_else, Accept.then_then, Accept.between_eq, portalOk,
          Bool.and_true, Bool.and_assoc, Bool.decide_eq_true, Bool.not_not]
      | bad =>
        simp only [Option.bind_none, ite_self, portalOk, Bool.false_and, Bool.and_false, Bool.false_eq_true,
          if_false]
      | ok u l =>
        have hl : (!decide (l > maxPortalLen)) = decide (l ≤ 246) := by
          rw [← decide_not]; exact decide_eq_decide.mpr Nat.not_lt
        simp only [Accept.bind_accept, Accept.reject_else, Accept.then_then, Accept.between_eq, portalOk, hl,
          Bool.and_assoc, Bool.decide_eq_true, Bool.not_not, Bool.true_and]

/-! ### interfaces and the whole document -/

theorem parsePlainDur_eq (s : DurStr) (d : Dur) : parsePlainDur s d = plainDur s d := by
  cases s <;> rfl

theorem parseMinInterval_eq (s : DurStr) (maxI : Dur) : parseMinInterval s maxI = minOf s maxI := by
  cases s with
  | lit d => exact Accept.reject_unless (c := d < 3 * second ∨ d > minUpper maxI) (by omega) _
  | empty | auto | unset => exact (apply_ite some _ _ _).symm
  | bad | infinite => rfl

theorem parseDefaultLifetime_eq (s : DurStr) (maxI : Dur) :
    parseDefaultLifetime s maxI = lifetimeOf s maxI := by
  unfold parseDefaultLifetime lifetimeOf
  simp only [Option.bind_eq_bind, Option.bind_none, Option.pure_def, parseDuration_eq]
  cases resolve s (3 * maxI) with
  | none => rfl
  | some l => exact Accept.reject_unless (by omega) _

theorem docAdvertising_eq (i : RawInterface) :
    docAdvertising i =
      match plainDur i.maxInterval (600 * second) with
      | none => false
      | some maxI => docScalars i maxI && docPlugins i maxI := by
  unfold docAdvertising docScalars docPlugins overlapPrefixes overlapRoutes
  cases plainDur i.maxInterval (600 * second) with
  | none => rfl
  | some maxI => simp only [Bool.and_assoc]; rfl

theorem docInterface_adv (i : RawInterface) (hdoc : docInterface i = true) (hadv : i.monitor = false) :
    ∃ maxI, plainDur i.maxInterval (600 * second) = some maxI ∧ 4 * second ≤ maxI ∧ maxI ≤ 1800 * second ∧
      docScalars i maxI = true ∧ docPlugins i maxI = true := by
  unfold docInterface at hdoc
  rw [hadv, docAdvertising_eq] at hdoc
  split at hdoc
  · cases hdoc
  · rename_i maxI hm
    simp only [Bool.false_and, Bool.not_false, Bool.false_or, Bool.true_and, Bool.and_eq_true] at hdoc
    obtain ⟨h4, h1800, -⟩ := (docScalars_iff i maxI).mp hdoc.1
    exact ⟨maxI, hm, h4, h1800, hdoc.1, hdoc.2⟩

theorem accepted_intervals (n : Nat) (i : RawInterface) (hdoc : docInterface i = true)
    (hadv : i.monitor = false) :
    ∃ maxI m, 4 * second ≤ maxI ∧ maxI ≤ 1800 * second ∧ minOf i.minInterval maxI = some m ∧
      (expInterface n i).maxInterval = maxI ∧ (expInterface n i).minInterval = m := by
  obtain ⟨maxI, hmax, h4, h1800, hs, -⟩ := docInterface_adv i hdoc hadv
  obtain ⟨m, hm⟩ := Option.isSome_iff_exists.mp ((docScalars_iff i maxI).mp hs).2.2.1
  refine ⟨maxI, m, h4, h1800, hm, ?_, ?_⟩ <;>
    simp only [expInterface, hadv, hmax, hm, Option.getD_some, Bool.false_eq_true, if_false]

theorem parseInterface_eq (n : Nat) (i : RawInterface) (hwf : wfIface i = true) :
    parseInterface n i = if docInterface i then some (expInterface n i) else none := by
  unfold parseInterface docInterface expInterface
  obtain ⟨g1, g2, g3, g4, g5, g6, g7, g8, g9, g10, -, -, -⟩ := gen_constants
  simp only [Option.bind_eq_bind, Option.bind_none, Option.pure_def, parsePlainDur_eq, parseMinInterval_eq,
    parseDefaultLifetime_eq, parsePreference_eq, g1, g2, g3, g4, g5, g6, g7, g8, g9, g10, docAdvertising_eq]
  cases hmon : i.monitor with
  | true => cases i.advertise <;> rfl
  | false =>
    simp only [Bool.false_and, Bool.false_eq_true, if_false, Bool.not_false, Bool.true_and, Bool.false_or]
    cases hmax : plainDur i.maxInterval (600 * second) with
    | none => rfl
    | some maxI =>
      simp only [Option.getD_some, Option.bind_some, docScalars, ← Accept.between_eq, within_eq]
      -- `parsePlugins_eq` needs `0 ≤ maxI`, which holds behind the first guard only
      by_cases hr : maxI < 4 * second ∨ maxI > 1800 * second
      · simp only [hr, if_true, decide_true, Bool.not_true, Bool.false_and, Bool.false_eq_true, if_false]
      · rw [if_neg hr, parsePlugins_eq i maxI hwf (by unfold second at hr; omega)]
        simp only [Accept.bind_isSome (0 : Dur), Accept.bind_isSome (0 : Nat), Accept.bind_accept,
          Accept.reject_else, Accept.then_then, hr, decide_false, Bool.not_false, Bool.true_and, Bool.and_assoc]
        cases i.hopLimit <;> rfl

theorem parsed (n : Nat) (i : RawInterface) (hwf : wfIface i = true) (ifi : Interface)
    (h : parseInterface n i = some ifi) : docInterface i = true ∧ ifi = expInterface n i :=
  Accept.accept_eq_some.mp (parseInterface_eq n i hwf ▸ h)

theorem all_const {α : Type} (l : List α) (b : Bool) (h : l ≠ []) : l.all (fun _ => b) = b := by
  cases l with
  | nil => exact absurd rfl h
  | cons x xs => cases b <;> simp

/-- the resolved interfaces of one stanza: one per name -/
def expStanza (i : RawInterface) : List Interface :=
  ((stanzaNames i).getD []).map (fun n => expInterface n i)

theorem parseInterfaces_eq (i : RawInterface) (hwf : wfIface i = true) :
    parseInterfaces i =
      if (stanzaNames i).isSome && docInterface i then some (expStanza i) else none := by
  unfold parseInterfaces stanzaNames expStanza stanzaNames
  have hm : ∀ ns : List Nat, ns ≠ [] → mapM' (fun n => parseInterface n i) ns =
      if docInterface i then some (ns.map (fun n => expInterface n i)) else none := by
    intro ns hns
    rw [mapM'_eq (d := fun _ => docInterface i) (e := fun n => expInterface n i) ns
      (fun n _ => parseInterface_eq n i hwf), all_const ns _ hns]
  cases hn : (i.name != 0) <;> cases hns : i.names with
  | nil => simp [hm]
  | cons x xs => simp [hm]

theorem expInterface_name (n : Nat) (i : RawInterface) : (expInterface n i).name = n := by
  unfold expInterface; split <;> rfl

theorem expStanza_names (i : RawInterface) : (expStanza i).map (·.name) = (stanzaNames i).getD [] := by
  unfold expStanza
  rw [List.map_map]
  have : ((fun x : Interface => x.name) ∘ fun n => expInterface n i) = id := by
    funext n; exact expInterface_name n i
  rw [this, List.map_id]

theorem nodupNat_iff (l : List Nat) : nodupNat l = true ↔ l.Nodup := by
  induction l with
  | nil => simp [nodupNat]
  | cons x xs ih => simp [nodupNat, ih]

theorem nodupIP_iff (l : List IP) : nodupIP l = true ↔ l.Nodup := by
  induction l with
  | nil => simp [nodupIP]
  | cons x xs ih => simp [nodupIP, ih]

/-- one turn of the `seen` loop, `a` being the names of a stanza and `b` those of the rest -/
theorem seen_step (seen a b : List Nat) :
    (nodupNat (a ++ b) && (a ++ b).all (fun x => !seen.contains x)) =
    (!(a.any seen.contains || hasDup a) && (nodupNat b && b.all (fun x => !(seen ++ a).contains x))) := by
  rw [Bool.eq_iff_iff, hasDup_eq]
  simp only [Bool.and_eq_true, Bool.not_eq_true', Bool.or_eq_false_iff, Bool.not_eq_false', nodupNat_iff,
    List.nodup_append, List.all_eq_true, List.any_eq_false, List.contains_eq_mem, decide_eq_true_eq,
    decide_eq_false_iff_not, List.mem_append]
  constructor
  · rintro ⟨⟨ha, hb, hab⟩, hs⟩
    refine ⟨⟨fun x hx => hs x (Or.inl hx), ha⟩, hb, ?_⟩
    rintro x hx (h | h)
    · exact hs x (Or.inr hx) h
    · exact hab x h x hx rfl
  · rintro ⟨⟨hs, ha⟩, hb, hsb⟩
    refine ⟨⟨ha, hb, ?_⟩, ?_⟩
    · rintro x hx y hy rfl; exact hsb x hy (Or.inr hx)
    · rintro x (hx | hx)
      · exact hs x hx
      · exact fun h => hsb x hx (Or.inl h)

/-- the invariant of the interface loop, for the stanzas still to come -/
def namesOk (seen : List Nat) (l : List RawInterface) : Bool :=
  match allNames l with
  | none => false
  | some ns => nodupNat ns && ns.all (fun x => !seen.contains x)

theorem namesOk_cons (seen a : List Nat) (r : RawInterface) (rs : List RawInterface)
    (hs : stanzaNames r = some a) :
    namesOk seen (r :: rs) = (!(a.any seen.contains || hasDup a) && namesOk (seen ++ a) rs) := by
  unfold namesOk
  simp only [allNames, hs]
  cases allNames rs with
  | none => simp
  | some b => exact seen_step seen a b

theorem parseAll_eq (l : List RawInterface) (seen : List Nat) (hwf : l.all wfIface = true) :
    parseAll l seen =
      if l.all docInterface && namesOk seen l then some (l.flatMap expStanza) else none := by
  induction l generalizing seen with
  | nil => rfl
  | cons r rs ih =>
    rw [List.all_cons, Bool.and_eq_true] at hwf
    simp only [parseAll, Option.bind_eq_bind, Option.bind_none, Option.pure_def, parseInterfaces_eq r hwf.1,
      ih _ hwf.2, Accept.bind_accept, expStanza_names]
    cases hs : stanzaNames r with
    | none => simp [namesOk, allNames, hs]
    | some a =>
      simp only [Option.isSome_some, Bool.true_and, Option.getD_some, Accept.reject_else, Accept.then_then,
        Bool.decide_eq_true, List.all_cons, namesOk_cons seen a r rs hs, List.flatMap_cons, Bool.and_assoc,
        Bool.and_left_comm (rs.all docInterface)]

/-- input well-formedness of a document -/
def wfConfig (c : RawConfig) : Bool := c.interfaces.all wfIface

theorem namesOk_nil (l : List RawInterface) :
    namesOk [] l = (match allNames l with | none => false | some ns => nodupNat ns) := by
  unfold namesOk
  cases allNames l with
  | none => rfl
  | some ns => simp

theorem parse_eq_spec (c : RawConfig) (hwf : wfConfig c = true) :
    parseConfig c = if documented c then some (expConfig c) else none := by
  unfold parseConfig documented expConfig
  simp only [Option.bind_eq_bind, Option.bind_none, Option.pure_def, parseAll_eq c.interfaces [] hwf, namesOk_nil,
    Accept.bind_accept]
  rw [show (fun i => List.map (fun n => expInterface n i) ((stanzaNames i).getD [])) = expStanza from rfl]
  by_cases h0 : c.debugAddr = 0
  · simp only [h0, if_true, Accept.reject_else, Accept.then_then, Bool.decide_eq_true, Bool.and_assoc]
    rfl
  · simp only [h0, if_false, Accept.reject_else, Accept.then_then, Bool.decide_eq_true, Bool.and_assoc,
      Bool.not_and, bne, Bool.not_not, beq_iff_eq]
    rfl

/-- acceptance is exactly the documented predicate -/
theorem accept_iff (c : RawConfig) (hwf : wfConfig c = true) : (parseConfig c).isSome = documented c := by
  rw [parse_eq_spec c hwf]; cases documented c <;> rfl

/-- every accepted document resolves to exactly the documented defaults/values -/
theorem defaults_exact (c : RawConfig) (hwf : wfConfig c = true) (cfg : Config)
    (h : parseConfig c = some cfg) : cfg = expConfig c :=
  (Accept.accept_eq_some.mp (parse_eq_spec c hwf ▸ h)).2

/-- The model meets the oracle that the check evaluates on the implementation's output. -/
theorem holds_model (c : RawConfig) (hwf : wfConfig c = true) :
    Spec.C02.holds c (parseConfig c) = (true, "") := by
  rw [parse_eq_spec c hwf]
  unfold Spec.C02.holds
  cases hd : documented c with
  | false => simp
  | true => simp [cfgEq]

/-- a valid `netip.Prefix` is well-formed in the sense needed here -/
theorem wfPfx_of_isValid (p : Prefix) (h : p.isValid = true) : wfPfx (.ok p) = true := by
  simp only [Prefix.isValid, Bool.and_eq_true, decide_eq_true_eq] at h
  exact decide_eq_true (Nat.le_trans h.2 (IP.bitLen_le _))

/-! ### float64 facts of `parseMinInterval` -/

/-- 0.75·x is exact in float64 for 0 ≤ x < 2^50 ns (≈ 13 days; MaxRtrAdvInterval ≤ 1800 s is far
    below): the `min_interval` upper bound is ⌊3x/4⌋ -/
theorem min_upper_exact (x : Int) (h0 : 0 ≤ x) (h1 : x < 2 ^ 50) : mul075 x = (3 * x) / 4 := by
  unfold mul075
  have hx : x.toNat * 3 < 2 ^ 53 := by
    have : (2:Int) ^ 50 = 1125899906842624 := by decide
    have : (2:Nat) ^ 53 = 9007199254740992 := by decide
    omega
  rw [floatMulTrunc_small 3 2 x.toNat hx]
  have : (2:Nat) ^ 2 = 4 := by decide
  rw [this]
  omega

theorem minUpper_eq (maxI : Dur) (h0 : 0 ≤ maxI) (h1 : maxI < 2 ^ 50) :
    minUpper maxI = truncateDur ((3 * maxI) / 4) second := by
  unfold minUpper; rw [min_upper_exact maxI h0 h1]

/-- for `k` whole seconds (9 ≤ k ≤ 1800) the float64 computation `⌊0.33·k s⌋` truncated to a second
    is `⌊33k/100⌋ s` -/
theorem min_default_table (k : Nat) (h9 : 9 ≤ k) (h1800 : k ≤ 1800) :
    minDefault ((k : Int) * second) = (((33 * k) / 100 : Nat) : Int) * second := by
  unfold minDefault
  rw [if_pos (by unfold second; omega), mul033_seconds k h1800]
  rw [truncateDur_of_nonneg second_pos (by omega)]
  unfold second
  omega

/-! ### the well-formedness hypothesis is necessary -/

/-- `bits = 200 > 128`: the model substitutes the `::/0` wildcard (`!prefix.IsValid()`), the
    specification rejects (`::` with a non-zero length). -/
def illFormedRoute : RawRoute := { pstr := .ok { addr := { val := 0 }, bits := 200 } }

theorem parseRoute_eq_needs_wf :
    parseRoute illFormedRoute ≠ if docRoute illFormedRoute then some (expRoute illFormedRoute) else none := by
  decide

def illFormedPrefix : RawPrefix :=
  { pstr := .ok { addr := { val := 0x20010db8000000000000000000000000 }, bits := 200 } }

/-- both accept, but the model resolves to the `::/64` wildcard and the specification to the
    (impossible) 200-bit prefix -/
theorem parsePrefix_eq_needs_wf :
    docPrefix illFormedPrefix = true ∧ parsePrefix illFormedPrefix ≠ some (expPrefix illFormedPrefix) := by
  decide

theorem parse_eq_spec_needs_wf :
    ∃ c : RawConfig, parseConfig c ≠ if documented c then some (expConfig c) else none := by
  refine ⟨{ interfaces := [{ name := 1, maxInterval := .lit (4 * second), routes := [illFormedRoute] }] },
    fun h => absurd (congrArg Option.isSome h) ?_⟩
  decide +kernel

/-! ### non-vacuity -/

deriving instance DecidableEq for Corerad.Model.Config

/-- Non-vacuity: an advertising stanza using most stanza kinds and several defaults, plus a
    two-name monitoring stanza whose advertising keys are garbage (`max_interval` unparsable). -/
def exGood : RawConfig :=
  { interfaces := [
      { name := 1, advertise := true, maxInterval := .lit (60 * second), hopLimit := some 32,
        defaultLifetime := .auto,
        prefixes := [ {}, { pstr := .ok { addr := { val := 0x20010db8000000010000000000000000 }, bits := 64 },
                            autonomous := some false, valid := .infinite, preferred := .lit (2 * hour) } ],
        routes := [ { pstr := .ok { addr := { val := 0x20010db8ffff00000000000000000000 }, bits := 48 }, preference := 3 } ],
        rdnss := [ { servers := [ .ok { val := 0x20010db8000000010000000000000053 }, .ok { val := 0 } ] } ],
        dnssl := [ { lifetime := .lit (100 * second), names := [7, 8] } ],
        pref64 := [ .unset ],
        mtu := 1500, captivePortal := .ok 9 30 },
      { names := [2, 3], monitor := true, verbose := true, maxInterval := .bad } ],
    debugAddr := 1, prometheus := true }

/-- what `exGood` resolves to: min_interval 19 s (⌊0.33·60⌋), default lifetime 180 s, RDNSS lifetime
    180 s with the `::` wildcard, PREF64 64:ff9b::/96 for 184 s (180 rounded up to a multiple of 8) -/
def exGoodResolved : Config :=
  { interfaces := [
      { name := 1, advertise := true, minInterval := 19 * second, maxInterval := 60 * second,
        hopLimit := 32, defaultLifetime := 180 * second,
        plugins := [
          .pfx true { addr := { val := 0 }, bits := 64 } true true (24 * hour) (4 * hour) false,
          .pfx false { addr := { val := 0x20010db8000000010000000000000000 }, bits := 64 } true false
            (4294967295 * second) (2 * hour) false,
          .route false { addr := { val := 0x20010db8ffff00000000000000000000 }, bits := 48 } prefHigh (24 * hour) false,
          .rdnss true (180 * second) [{ val := 0x20010db8000000010000000000000053 }],
          .dnssl (100 * second) [7, 8],
          .mtu 1500, .lla, .captivePortal 9 30,
          .pref64 { addr := { val := 0x0064ff9b000000000000000000000000 }, bits := 96 } (184 * second) ] },
      { name := 2, monitor := true, verbose := true },
      { name := 3, monitor := true, verbose := true } ],
    debugAddr := 1, prometheus := true }

example : wfConfig exGood = true ∧ documented exGood = true ∧ parseConfig exGood = some exGoodResolved ∧
    expConfig exGood = exGoodResolved := by decide +kernel

/-- the same document with the wildcard `::/64` prefix stanza repeated is rejected (overlap) -/
def exBad : RawConfig :=
  { exGood with interfaces := exGood.interfaces.map (fun i => { i with prefixes := {} :: i.prefixes }) }

example : wfConfig exBad = true ∧ documented exBad = false ∧ parseConfig exBad = none := by decide +kernel

/-- a name used by two stanzas is rejected -/
example : let c : RawConfig := { interfaces := [{ name := 1 }, { names := [2, 1] }] }
    documented c = false ∧ parseConfig c = none := by decide +kernel

/-- `min_interval = 46 s > 0.75·60 s` is rejected, 45 s is accepted -/
example :
    parseConfig { interfaces := [{ name := 1, maxInterval := .lit (60 * second), minInterval := .lit (46 * second) }] } = none ∧
    (parseConfig { interfaces := [{ name := 1, maxInterval := .lit (60 * second), minInterval := .lit (45 * second) }] }).isSome = true := by
  decide +kernel

end Corerad.Props.C02
