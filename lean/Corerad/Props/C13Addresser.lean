/-
  C13 / C14 / C15, OS-glue part — `AddressesByIndex` and `routesByIndex` of
  internal/system/addresser_linux.go, and their composition with the verified wildcard
  expansions (`currentPrefixes`, `currentRDNSS`, `currentRoutes` of Model/Wild.lean).

  All theorems quantify over every dump (any length, any order, any message type and family,
  nil attributes, address slices of any length, every 32-bit flag word and beyond, every
  cache-info value) and both outcomes of the request.  Model: Model/Addresser.lean; oracle
  evaluated on the real functions' results: Spec/C13Addresser.lean.
-/
import Corerad.Spec.C13Addresser
import Corerad.Lemmas.Bits
import Corerad.Props.C13
import Corerad.Props.C14
import Corerad.Props.C15

namespace Corerad.Props.C13Addresser

open Corerad Corerad.Model Corerad.Model.Addresser Corerad.Spec.C13Addresser

/-! ### the flag word -/

/-- the IFA_F_* masks are single bits: 0, 5, 6, 8, 11 (linux/if_addr.h) -/
theorem masks_are_bits :
    ifaFTemporary = 2 ^ 0 ∧ ifaFDeprecated = 2 ^ 5 ∧ ifaFTentative = 2 ^ 6 ∧
    ifaFManageTempAddr = 2 ^ 8 ∧ ifaFStablePrivacy = 2 ^ 11 ∧ maxUint32 = 2 ^ 32 - 1 ∧ afInet6 = 10 := by
  decide

theorem and_two_pow_ne_zero (f k : Nat) : (f &&& 2 ^ k != 0) = f.testBit k :=
  Bool.eq_iff_iff.mpr (bne_iff_ne.trans (and_two_pow_ne_zero_iff f k))

/-- **flags_exact.**  Each boolean of the `system.IP` is exactly its flag bit — Temporary ⇔ bit 0
    (IFA_F_TEMPORARY), Deprecated ⇔ bit 5, Tentative ⇔ bit 6, ManageTemporaryAddresses ⇔ bit 8,
    StablePrivacy ⇔ bit 11 — for every flag word, whatever its other bits; ValidForever ⇔ the
    valid lifetime is 2³²−1; the address and the prefix length are the message's. -/
theorem flags_exact (m : AddrMsg) :
    (mkIP m).temporary = m.flags.testBit 0 ∧
    (mkIP m).deprecated = m.flags.testBit 5 ∧
    (mkIP m).tentative = m.flags.testBit 6 ∧
    (mkIP m).manageTemp = m.flags.testBit 8 ∧
    (mkIP m).stablePrivacy = m.flags.testBit 11 ∧
    ((mkIP m).validForever = true ↔ m.valid = 4294967295) ∧
    (mkIP m).addr = { addr := m.ip, bits := m.plen } := by
  refine ⟨?_, ?_, ?_, ?_, ?_, ?_, rfl⟩
  · exact and_two_pow_ne_zero m.flags 0
  · exact and_two_pow_ne_zero m.flags 5
  · exact and_two_pow_ne_zero m.flags 6
  · exact and_two_pow_ne_zero m.flags 8
  · exact and_two_pow_ne_zero m.flags 11
  · simp [mkIP, maxUint32]

/-- The five booleans are independent: every combination of the five bits (with any of the
    other assigned IFA_F_* bits set as noise) decodes to exactly that combination. -/
theorem flags_table :
    ∀ t d n g s : Bool, ∀ noise : Fin 4,
      let f := t.toNat * 0x1 + d.toNat * 0x20 + n.toNat * 0x40 + g.toNat * 0x100 + s.toNat * 0x800 +
               [0, 0x80, 0x200 + 0x2, 0x400 + 0x80 + 0x10 + 0x8 + 0x4][noise.val]!
      let a := mkIP { flags := f }
      a.temporary = t ∧ a.deprecated = d ∧ a.tentative = n ∧ a.manageTemp = g ∧ a.stablePrivacy = s := by
  decide +kernel

/-! ### the three outcomes

`AddressesByIndex` and `routesByIndex` are one function of the invariant check `ok` and the
decoding `mk` of a single message. -/

section dumpRes

variable {α β : Type}

def dumpRes (ok : α → Bool) (mk : α → β) (msgs : List α) (failed : Bool) : Res β :=
  if failed || msgs.isEmpty then .nil failed
  else if msgs.all ok then .ok (msgs.map mk) else .panic

variable (ok : α → Bool) (mk : α → β) (msgs : List α) (failed : Bool)

-- each inversion reads the decision table: request failed? dump empty? every message passes?

theorem dumpRes_ok_iff (l : List β) :
    dumpRes ok mk msgs failed = .ok l ↔
      failed = false ∧ msgs ≠ [] ∧ msgs.all ok = true ∧ l = msgs.map mk := by
  unfold dumpRes
  cases failed <;> cases msgs <;> cases List.all _ ok <;> simp [eq_comm]

theorem dumpRes_nil_iff (e : Bool) :
    dumpRes ok mk msgs failed = .nil e ↔ (failed = true ∨ msgs = []) ∧ e = failed := by
  unfold dumpRes
  cases failed <;> cases msgs <;> cases List.all _ ok <;> simp [eq_comm]

theorem dumpRes_panic_iff :
    dumpRes ok mk msgs failed = .panic ↔ failed = false ∧ msgs ≠ [] ∧ ∃ m ∈ msgs, ok m = false := by
  have : (∃ m ∈ msgs, ok m = false) ↔ msgs.all ok = false := by simp
  rw [this, dumpRes]
  cases failed <;> cases msgs <;> cases List.all _ ok <;> simp

/-- The oracles have one shape: they follow the three outcomes, with a well-formedness `wf` in
    place of the invariant check, and judge whatever else is returned by `k`. -/
theorem holds_dumpRes [DecidableEq β] {ok wf : α → Bool} {mk : α → β} {msgs : List α} {failed : Bool}
    {k : Res β → Bool} {r : Res β} (hr : r = dumpRes ok mk msgs failed)
    (hw : ∀ m ∈ msgs, wf m = ok m) (hk : k (.ok (msgs.map mk)) = true) :
    (if failed || msgs.isEmpty then r == .nil failed
     else if !msgs.all wf then r == .panic else k r) = true := by
  rw [hr, dumpRes, all_congr_mem msgs hw]
  by_cases h1 : (failed || msgs.isEmpty) = true
  · simp [h1]
  · cases h2 : msgs.all ok <;> simp [h1, hk]

end dumpRes

/-! ### the dump, message by message -/

theorem ipOK_eq (ip : IP) : ipOK ip = (ip.valid && !ip.v4 && ip.val / 2^32 != 0xffff) := by
  simp only [ipOK, IP.is4In6, IP.is6, bne, Bool.not_and]
  cases ip.valid <;> cases ip.v4 <;> rfl

theorem ipOK_is6 {ip : IP} (h : ipOK ip = true) : ip.is6 = true := by
  simp only [ipOK, Bool.and_eq_true] at h; exact h.1.2

/-- the panic conditions of the source are the oracle's well-formedness, negated -/
theorem addrMsgOK_eq (m : AddrMsg) : addrMsgOK m = wellFormedAddr m := by
  simp only [addrMsgOK, wellFormedAddr, ipOK_eq, afInet6, Bool.and_assoc]

theorem decodeAddrs_eq (msgs : List AddrMsg) :
    decodeAddrs msgs = if msgs.all addrMsgOK then some (msgs.map mkIP) else none := by
  induction msgs with
  | nil => rfl
  | cons m ms ih =>
    unfold decodeAddrs decodeAddr
    rw [ih]
    cases h1 : addrMsgOK m <;> cases h2 : ms.all addrMsgOK <;> simp [h1, h2]

theorem addrMsgOK_is6 {m : AddrMsg} (h : addrMsgOK m = true) : m.ip.is6 = true :=
  ipOK_is6 (Bool.and_eq_true_iff.mp h).2

theorem addresses_cases (msgs : List AddrMsg) (failed : Bool) :
    addressesByIndex msgs failed = dumpRes addrMsgOK mkIP msgs failed := by
  unfold addressesByIndex dumpRes
  rw [decodeAddrs_eq]
  cases failed <;> cases msgs.isEmpty <;> cases msgs.all addrMsgOK <;> rfl

theorem ok_iff (msgs : List AddrMsg) (failed : Bool) (l : List SysIP) :
    addressesByIndex msgs failed = .ok l ↔
      failed = false ∧ msgs ≠ [] ∧ msgs.all addrMsgOK = true ∧ l = msgs.map mkIP := by
  rw [addresses_cases, dumpRes_ok_iff]

/-- **count_exact** and **order_preserved.**  When `AddressesByIndex` returns a list it has
    exactly one `system.IP` per dumped message, and entry `k` is the decoding of message `k`:
    the dump order is the result order. -/
theorem order_preserved (msgs : List AddrMsg) (failed : Bool) (l : List SysIP)
    (h : addressesByIndex msgs failed = .ok l) :
    l = msgs.map mkIP ∧ l.length = msgs.length ∧
    ∀ k (hk : k < msgs.length), l[k]? = some (mkIP msgs[k]) := by
  obtain ⟨_, _, _, rfl⟩ := (ok_iff msgs failed l).mp h
  exact ⟨rfl, by simp, fun k hk => by simp [hk]⟩

theorem count_exact (msgs : List AddrMsg) (failed : Bool) (l : List SysIP)
    (h : addressesByIndex msgs failed = .ok l) : l.length = msgs.length :=
  (order_preserved msgs failed l h).2.1

/-- `(nil, err)` ⇔ the request failed or the dump is empty; the error is the request's. -/
theorem nil_iff (msgs : List AddrMsg) (failed e : Bool) :
    addressesByIndex msgs failed = .nil e ↔ (failed = true ∨ msgs = []) ∧ e = failed := by
  rw [addresses_cases, dumpRes_nil_iff]

/-- panic ⇔ the request succeeded with a non-empty dump in which some message is not an
    AF_INET6 address message with attributes and a 16-byte, non-IPv4-mapped address. -/
theorem panic_iff (msgs : List AddrMsg) (failed : Bool) :
    addressesByIndex msgs failed = .panic ↔
      failed = false ∧ msgs ≠ [] ∧ ∃ m ∈ msgs, wellFormedAddr m = false := by
  simp only [addresses_cases, dumpRes_panic_iff, addrMsgOK_eq]

theorem entryOf_mkIP (m : AddrMsg) : entryOf m (mkIP m) = true := by
  obtain ⟨h0, h5, h6, h8, h11, _, _⟩ := flags_exact m
  unfold entryOf
  rw [h0, h5, h6, h8, h11]
  simp [mkIP, maxUint32]

theorem zipAll_map (msgs : List AddrMsg) : zipAll msgs (msgs.map mkIP) = true := by
  induction msgs with
  | nil => rfl
  | cons m ms ih => simp [zipAll, entryOf_mkIP, ih]

/-- The model meets the oracle that the check evaluates on the real `AddressesByIndex`. -/
theorem holds_model_addrs (msgs : List AddrMsg) (failed : Bool) :
    holdsAddrs msgs failed (addressesByIndex msgs failed) = true := by
  unfold holdsAddrs
  generalize hr : addressesByIndex msgs failed = r
  apply holds_dumpRes (hr.symm.trans (addresses_cases msgs failed))
  · exact fun m _ => (addrMsgOK_eq m).symm
  · exact zipAll_map msgs

/-! ### routes -/

theorem routeMsgOK_eq (m : RouteMsg) : routeMsgOK m = wellFormedRoute m := by
  simp only [routeMsgOK, wellFormedRoute, ipOK_eq, afInet6, Bool.and_assoc]

theorem decodeRoutes_eq (msgs : List RouteMsg) :
    decodeRoutes msgs = if msgs.all routeMsgOK then some (msgs.map mkRoute) else none := by
  induction msgs with
  | nil => rfl
  | cons m ms ih =>
    unfold decodeRoutes decodeRoute
    rw [ih]
    cases h1 : routeMsgOK m <;> cases h2 : ms.all routeMsgOK <;> simp [h1, h2]

theorem routeMsgOK_is6 {m : RouteMsg} (h : routeMsgOK m = true) : m.dst.is6 = true :=
  ipOK_is6 (Bool.and_eq_true_iff.mp h).2

theorem routes_cases (msgs : List RouteMsg) (failed : Bool) :
    routesByIndex msgs failed = dumpRes routeMsgOK mkRoute msgs failed := by
  unfold routesByIndex dumpRes
  rw [decodeRoutes_eq]
  cases failed <;> cases msgs.isEmpty <;> cases msgs.all routeMsgOK <;> rfl

theorem routes_ok_iff (msgs : List RouteMsg) (failed : Bool) (l : List SysRoute) :
    routesByIndex msgs failed = .ok l ↔
      failed = false ∧ msgs ≠ [] ∧ msgs.all routeMsgOK = true ∧ l = msgs.map mkRoute := by
  rw [routes_cases, dumpRes_ok_iff]

/-- Each `RouteMessage` maps to exactly one `system.Route`, in dump order, with
    `Prefix = (Dst, DstLength)`, the out-interface index and the NDP preference (Medium when
    the attribute is absent). -/
theorem routes_exact (msgs : List RouteMsg) (failed : Bool) (l : List SysRoute)
    (h : routesByIndex msgs failed = .ok l) :
    l = msgs.map mkRoute ∧ l.length = msgs.length ∧
    ∀ k (hk : k < msgs.length), (l[k]?.map (·.pfx)) = some { addr := msgs[k].dst, bits := msgs[k].dlen } := by
  obtain ⟨_, _, _, rfl⟩ := (routes_ok_iff msgs failed l).mp h
  exact ⟨rfl, by simp, fun k hk => by simp [hk, mkRoute]⟩

theorem routeOf_mkRoute (m : RouteMsg) : routeOf m (mkRoute m) = true := by
  unfold routeOf mkRoute Model.Addresser.prefMedium; cases m.pref <;> simp

theorem zipAllR_map (msgs : List RouteMsg) : zipAllR msgs (msgs.map mkRoute) = true := by
  induction msgs with
  | nil => rfl
  | cons m ms ih => simp [zipAllR, routeOf_mkRoute, ih]

/-- The model meets the oracle that the check evaluates on the real `routesByIndex`. -/
theorem holds_model_routes (msgs : List RouteMsg) (failed : Bool) :
    holdsRoutes msgs failed (routesByIndex msgs failed) = true := by
  unfold holdsRoutes
  generalize hr : routesByIndex msgs failed = r
  apply holds_dumpRes (hr.symm.trans (routes_cases msgs failed))
  · exact fun m _ => (routeMsgOK_eq m).symm
  · exact zipAllR_map msgs

/-! ### end to end: the dump determines what is advertised -/

/-- **C13 end to end.**  Whatever the kernel dumps, if `AddressesByIndex` returns, the prefixes
    the `::/64` wildcard expands to satisfy the C13 oracle with respect to the decoded dump
    (`Props.C13.holds_model` composed with the decoding). -/
theorem prefixes_from_dump (msgs : List AddrMsg) (ps : List Prefix)
    (h : advertisedPrefixes msgs false = some ps) :
    ∃ as, addrsSeen (addressesByIndex msgs false) = some as ∧
      (as = msgs.map mkIP ∨ (msgs = [] ∧ as = [])) ∧
      ps = currentPrefixes 64 as ∧ Spec.C13.holds 64 as ps = true := by
  unfold advertisedPrefixes at h
  cases hr : addressesByIndex msgs false with
  | ok l =>
    rw [hr] at h; cases h
    exact ⟨l, rfl, .inl ((ok_iff msgs false l).mp hr).2.2.2, rfl, Props.C13.holds_model 64 l⟩
  | nil e =>
    obtain ⟨hm, rfl⟩ := (nil_iff msgs false e).mp hr
    rw [hr] at h; cases h
    exact ⟨[], rfl, .inr ⟨hm.resolve_left Bool.false_ne_true, rfl⟩, rfl, Props.C13.holds_model 64 []⟩
  | panic => rw [hr] at h; cases h

theorem eligible_mkIP {m : AddrMsg} (hm : addrMsgOK m = true) {bits : Nat} (hb : bits ≤ 128) :
    Spec.C13.eligible bits (mkIP m) = true ↔
      m.plen = bits ∧ m.ip.isLinkLocalUnicast = false ∧ m.flags.testBit 0 = false ∧
        m.flags.testBit 6 = false := by
  have h6 := addrMsgOK_is6 hm
  obtain ⟨hv, h4⟩ := (IP.is6_iff _).mp h6
  obtain ⟨hb0, _, hb6, _, _, _, ha⟩ := flags_exact m
  simp only [Spec.C13.eligible, hb0, hb6, ha, Prefix.isValid, IP.is4, hv, h4, IP.bitLen_of_is6 h6,
    Bool.and_eq_true, Bool.not_eq_true', beq_iff_eq, decide_eq_true_eq]
  constructor
  · rintro ⟨⟨⟨⟨_, h2⟩, h3⟩, h4'⟩, h5⟩; exact ⟨h3, h2, h4', h5⟩
  · rintro ⟨h3, h2, h4', h5⟩; exact ⟨⟨⟨⟨⟨⟨trivial, by omega⟩, by simp⟩, h2⟩, h3⟩, h4'⟩, h5⟩

/-- …spelled out on the raw dump: a prefix is advertised for `::/64` iff some dumped message has
    prefix length 64, an address outside fe80::/10, flag bits 0 (IFA_F_TEMPORARY) and 6
    (IFA_F_TENTATIVE) clear, and that network.  Deprecated, manage-temp, stable-privacy and the
    lifetimes play no part. -/
theorem advertised_prefix_iff (msgs : List AddrMsg) (hok : msgs.all addrMsgOK = true)
    (hne : msgs ≠ []) (p : Prefix) :
    (∃ ps, advertisedPrefixes msgs false = some ps ∧ p ∈ ps) ↔
      ∃ m ∈ msgs, m.plen = 64 ∧ m.ip.isLinkLocalUnicast = false ∧
        m.flags.testBit 0 = false ∧ m.flags.testBit 6 = false ∧
        ({ addr := m.ip, bits := m.plen } : Prefix).masked = p := by
  have hadv : advertisedPrefixes msgs false = some (currentPrefixes 64 (msgs.map mkIP)) := by
    rw [advertisedPrefixes, (ok_iff msgs false _).mpr ⟨rfl, hne, hok, rfl⟩]; rfl
  simp only [hadv, Option.some.injEq, exists_eq_left', Props.C13.mem_iff]
  have hel := fun m hm => eligible_mkIP (List.all_eq_true.mp hok m hm) (bits := 64) (by omega)
  constructor
  · rintro ⟨_, ha, he, hp⟩
    obtain ⟨m, hm, rfl⟩ := List.mem_map.mp ha
    obtain ⟨h1, h2, h3, h4⟩ := (hel m hm).mp he
    exact ⟨m, hm, h1, h2, h3, h4, hp⟩
  · rintro ⟨m, hm, h1, h2, h3, h4, hp⟩
    exact ⟨mkIP m, List.mem_map_of_mem hm, (hel m hm).mpr ⟨h1, h2, h3, h4⟩, hp⟩

/-- A failing request fails RA generation for `::/64` and for `::` (the plugins' `Addrs` error
    path); an empty dump advertises no prefix and leaves `::` without a usable address. -/
theorem failing_or_empty_dump (static : List IP) (msgs : List AddrMsg) :
    advertisedPrefixes msgs true = none ∧ advertisedRDNSS static msgs true = none ∧
    advertisedPrefixes [] false = some [] ∧ advertisedRDNSS static [] false = none := by
  have ht : addressesByIndex msgs true = .nil true := (nil_iff _ _ _).mpr ⟨.inl rfl, rfl⟩
  have he : addressesByIndex [] false = .nil false := (nil_iff _ _ _).mpr ⟨.inr rfl, rfl⟩
  refine ⟨?_, ?_, by decide, ?_⟩
  · rw [advertisedPrefixes, ht]; rfl
  · rw [advertisedRDNSS, ht]; rfl
  · rw [advertisedRDNSS, he]; rfl

/-- what the kernel guarantees of an RTM_GETADDR dump for AF_INET6: prefix lengths up to 128,
    16-byte addresses -/
def DumpWF (msgs : List AddrMsg) : Prop := ∀ m ∈ msgs, m.plen ≤ 128 ∧ m.ip.val < 2 ^ 128

/-- **C14 end to end.**  On every well-formed dump for which `AddressesByIndex` returns a list,
    the server list of a `::` stanza satisfies the C14 oracle with respect to the decoded dump
    (`Props.C14.holds_model` composed with the decoding). -/
theorem rdnss_from_dump (static : List IP) (msgs : List AddrMsg) (l : List SysIP)
    (hwf : DumpWF msgs) (h : addressesByIndex msgs false = .ok l) :
    advertisedRDNSS static msgs false = applyRDNSS true static (some l) ∧
    Spec.C14.holds static l (applyRDNSS true static (some l)) = true := by
  refine ⟨by simp [advertisedRDNSS, h, addrsSeen], Props.C14.holds_model _ _ ?_⟩
  obtain ⟨_, _, hok, rfl⟩ := (ok_iff msgs false l).mp h
  intro a ha
  obtain ⟨m, hm, rfl⟩ := List.mem_map.mp ha
  exact ⟨Prefix.isValid_of_is6 (addrMsgOK_is6 (List.all_eq_true.mp hok m hm)) (hwf m hm).1, (hwf m hm).2⟩

/-- what the kernel guarantees of an RTM_GETROUTE dump for AF_INET6: canonical destinations -/
def RouteDumpWF (msgs : List RouteMsg) : Prop :=
  ∀ m ∈ msgs, m.dlen ≤ 128 ∧ ({ addr := m.dst, bits := m.dlen } : Prefix).masked = { addr := m.dst, bits := m.dlen }

/-- **C15 end to end.**  On every well-formed route dump for which `routesByIndex` returns a
    list, the routes the `::/0` wildcard expands to satisfy the C15 oracle with respect to the
    decoded dump (`Props.C15.holds_model` composed with the decoding). -/
theorem routes_from_dump (msgs : List RouteMsg) (l : List SysRoute)
    (hwf : RouteDumpWF msgs) (h : routesByIndex msgs false = .ok l) :
    advertisedRoutes msgs false = some (currentRoutes (l.map (·.pfx))) ∧
    Spec.C15.holds (l.map (·.pfx)) (currentRoutes (l.map (·.pfx))) = true := by
  refine ⟨by simp [advertisedRoutes, h, routesSeen], Props.C15.holds_model _ ?_⟩
  obtain ⟨_, _, hok, rfl⟩ := (routes_ok_iff msgs false l).mp h
  intro r hr
  rw [List.map_map] at hr
  obtain ⟨m, hm, rfl⟩ := List.mem_map.mp hr
  exact ⟨Prefix.isValid_of_is6 (routeMsgOK_is6 (List.all_eq_true.mp hok m hm)) (hwf m hm).1, (hwf m hm).2⟩

/-- A dump as the kernel produces it: a static ULA address (valid for ever), a temporary privacy
    address in the same /64, a tentative address in another /64, the link-local address — one
    entry each, in order, and `::/64` expands to the single ULA network.  The oracle accepts the
    model's result and rejects a swapped flag, a reordering and a dropped entry. -/
example :
    let ula : IP := { val := 0xfd000000000000010000000000000001 }
    let tmp : IP := { val := 0xfd00000000000001aaaabbbbccccdddd }
    let tent : IP := { val := 0x20010db8000000020000000000000001 }
    let ll : IP := { val := 0xfe800000000000000000000000000001 }
    let dump : List AddrMsg :=
      [{ ip := ula, flags := 0x80, valid := 4294967295 }, { ip := tmp, flags := 0x1, valid := 600 },
       { ip := tent, flags := 0x40 ||| 0x100, valid := 86400 }, { ip := ll, flags := 0x80, valid := 4294967295 }]
    let want : List SysIP :=
      [{ addr := ⟨ula, 64⟩, validForever := true }, { addr := ⟨tmp, 64⟩, temporary := true },
       { addr := ⟨tent, 64⟩, tentative := true, manageTemp := true }, { addr := ⟨ll, 64⟩, validForever := true }]
    addressesByIndex dump false = .ok want ∧
    holdsAddrs dump false (.ok want) = true ∧
    advertisedPrefixes dump false = some [⟨{ val := 0xfd000000000000010000000000000000 }, 64⟩] ∧
    holdsAddrs dump false (.ok (want.map fun a => { a with temporary := a.tentative, tentative := a.temporary })) = false ∧
    holdsAddrs dump false (.ok want.reverse) = false ∧
    holdsAddrs dump false (.ok want.tail) = false ∧
    holdsAddrs dump true (.ok want) = false ∧ holdsAddrs dump true (.nil true) = true ∧
    holdsAddrs [] false (.nil false) = true ∧
    addressesByIndex ({ family := 2 } :: dump) false = .panic ∧
    addressesByIndex ({ ip := { val := 0xffffc0000201 } } :: dump) false = .panic := by
  decide

/-! ### the default route (finding F-18) -/

/-- With the default route given its destination (`normRoute true`: what a repaired source does,
    `Gen.Plugin.routeDefaultWithoutDst`), the model meets the documented oracle on every dump. -/
theorem holds_model_routes_doc_strict (msgs : List RouteMsg) (failed : Bool) :
    Spec.C13Addresser.holdsRoutesDocStrict msgs failed (routesByIndex (msgs.map (normRoute true)) failed) = true := by
  unfold Spec.C13Addresser.holdsRoutesDocStrict
  exact holds_model_routes _ failed

/-! ### IPv4-mapped entries and peer addresses (findings F-27, F-28)

  The documented oracles (`holdsAddrsDoc`, `holdsRoutesDoc`) do not count an IPv4-mapped entry
  as a broken invariant and take the interface's own address from IFA_LOCAL. The model — which
  mirrors the source — meets them on every dump *without* such entries; the witnesses below show
  it failing on the smallest dumps with one, which is what the check reports against the real
  functions (known findings, see known_findings.txt). -/

theorem wellFormedRoute_split (m : RouteMsg) :
    wellFormedRoute m = (wellFormedRouteDoc m && !mapped m.dst) := by
  unfold wellFormedRoute wellFormedRouteDoc mapped
  cases m.dst.valid <;> cases m.dst.v4 <;> simp [bne]

theorem zipAllR_doc (ms : List RouteMsg) (l : List SysRoute) (h : zipAllR ms l = true) :
    zipAllRDoc ms l = true := by
  induction ms generalizing l with
  | nil => cases l with
    | nil => rfl
    | cons _ _ => simp [zipAllR] at h
  | cons m ms ih => cases l with
    | nil => simp [zipAllR] at h
    | cons a as =>
      simp only [zipAllR, Bool.and_eq_true] at h
      simp only [zipAllRDoc, Bool.or_eq_true, Bool.and_eq_true]
      exact Or.inl ⟨h.1, ih as h.2⟩

/-- On a dump without IPv4-mapped routes the model meets the documented oracle. -/
theorem holds_model_routes_doc (msgs : List RouteMsg) (failed : Bool)
    (hm : (msgs.map (normRoute true)).all (fun m => !mapped m.dst) = true) :
    Spec.C13Addresser.holdsRoutesDoc msgs failed (routesByIndex (msgs.map (normRoute true)) failed) = true := by
  unfold Spec.C13Addresser.holdsRoutesDoc
  generalize msgs.map (normRoute true) = ms at hm ⊢
  generalize hr : routesByIndex ms failed = r
  apply holds_dumpRes (hr.symm.trans (routes_cases ms failed))
  · intro m hmem
    rw [routeMsgOK_eq, wellFormedRoute_split, List.all_eq_true.mp hm m hmem, Bool.and_true]
  · exact zipAllR_doc _ _ (zipAllR_map ms)

theorem wellFormedAddr_split (m : AddrMsg) (hl : m.loc = none) :
    wellFormedAddr m = (wellFormedAddrDoc m && !mapped m.ip) := by
  unfold wellFormedAddr wellFormedAddrDoc mapped
  rw [hl]
  cases m.ip.valid <;> cases m.ip.v4 <;> simp [bne]

theorem zipAll_doc (ms : List AddrMsg) (l : List SysIP) (hl : ∀ m ∈ ms, m.loc = none)
    (h : zipAll ms l = true) : zipAllDoc ms l = true := by
  induction ms generalizing l with
  | nil => cases l with
    | nil => rfl
    | cons _ _ => simp [zipAll] at h
  | cons m ms ih => cases l with
    | nil => simp [zipAll] at h
    | cons a as =>
      simp only [zipAll, Bool.and_eq_true] at h
      simp only [zipAllDoc, Bool.or_eq_true, Bool.and_eq_true]
      refine Or.inl ⟨?_, ih as (fun m hm => hl m (List.mem_cons_of_mem _ hm)) h.2⟩
      have : ({ m with ip := ownAddr m } : AddrMsg) = m := by
        have hloc := hl m (List.mem_cons_self ..)
        cases m with
        | mk _ _ _ _ _ _ _ loc => simp only at hloc; subst hloc; rfl
      unfold entryOfDoc; rw [this]; exact h.1

/-- On a dump without peer addresses and IPv4-mapped addresses the model meets the documented
    oracle. -/
theorem holds_model_addrs_doc (msgs : List AddrMsg) (failed : Bool)
    (hl : ∀ m ∈ msgs, m.loc = none) (hm : msgs.all (fun m => !mapped m.ip) = true) :
    holdsAddrsDoc msgs failed (addressesByIndex msgs failed) = true := by
  unfold holdsAddrsDoc
  generalize hr : addressesByIndex msgs failed = r
  apply holds_dumpRes (hr.symm.trans (addresses_cases msgs failed))
  · intro m hmem
    rw [addrMsgOK_eq, wellFormedAddr_split m (hl m hmem), List.all_eq_true.mp hm m hmem, Bool.and_true]
  · exact zipAll_doc _ _ hl (zipAll_map msgs)

/-- F-27: an IPv4-mapped address on the interface (`ip -6 addr add ::ffff:192.0.2.9/128 dev eth0`)
    or an IPv4-mapped route on the loopback interface (`unreachable ::ffff:0.0.0.0/96 dev lo`):
    the documented answer leaves it out or passes it on; the source panics. -/
theorem v4mapped_witness :
    let a : AddrMsg := { ip := { val := 0xffffc0000209 }, plen := 128 }
    let g : AddrMsg := { ip := { val := 0x20010db8000000010000000000000001 } }
    let r : RouteMsg := { dst := { val := 0xffff00000000 }, dlen := 96, oif := 1 }
    addressesByIndex [g, a] false = .panic ∧
    holdsAddrsDoc [g, a] false .panic = false ∧ mappedAddrClass [g, a] false .panic = true ∧
    holdsAddrsDoc [g, a] false (.ok [mkIP g]) = true ∧ holdsAddrsDoc [g, a] false (.ok [mkIP g, mkIP a]) = true ∧
    routesByIndex [r] false = .panic ∧
    holdsRoutesDoc [r] false .panic = false ∧ mappedRouteClass [r] false .panic = true ∧
    holdsRoutesDoc [r] false (.nil false) = true ∧ holdsRoutesDoc [r] false (.ok [mkRoute r]) = true := by
  decide

/-- F-28: an address with a peer (`ip addr add 2001:db8:5::1 peer 2001:db8:6::2/64 dev eth0`):
    the interface's own address is the IFA_LOCAL one; the source reports the peer's. -/
theorem peer_witness :
    let own : IP := { val := 0x20010db8000500000000000000000001 }
    let peer : IP := { val := 0x20010db8000600000000000000000002 }
    let m : AddrMsg := { ip := peer, plen := 64, loc := some own }
    addressesByIndex [m] false = .ok [{ addr := ⟨peer, 64⟩ }] ∧
    holdsAddrsDoc [m] false (.ok [{ addr := ⟨peer, 64⟩ }]) = false ∧
    peerClass [m] false (.ok [{ addr := ⟨peer, 64⟩ }]) = true ∧
    holdsAddrsDoc [m] false (.ok [{ addr := ⟨own, 64⟩ }]) = true ∧
    advertisedRDNSS [] [m] false = some [peer] := by
  decide

/-- The kernel's default route — no destination attribute, destination length 0 — on the
    loopback interface: the documented answer is the route `::/0`; the pinned source (no special
    treatment) panics on it, which the oracle rejects and classifies as F-18. -/
theorem default_route_witness :
    let d : RouteMsg := { dst := IP.zero, dlen := 0, oif := 1, dstAbsent := true }
    routesByIndex ([d].map (normRoute true)) false =
      .ok [{ pfx := { addr := v6Unspecified, bits := 0 }, index := 1, preference := Model.Addresser.prefMedium }] ∧
    routesByIndex ([d].map (normRoute false)) false = .panic ∧
    Spec.C13Addresser.holdsRoutesDoc [d] false .panic = false ∧
    Spec.C13Addresser.defaultRouteClass [d] false .panic = true := by
  decide

/-- A missing destination attribute with a non-zero length stays a broken invariant. -/
example :
    let m : RouteMsg := { dst := IP.zero, dlen := 64, oif := 1, dstAbsent := true }
    routesByIndex ([m].map (normRoute true)) false = .panic := by decide

end Corerad.Props.C13Addresser
