/-
  C09 — invalid NDP messages are ignored and can never disrupt service.

  Theorems over EVERY script of reads — valid messages, messages with a bad hop limit, receive
  timeouts and read errors in any mix, number and order, from any attempt counter: the run on a
  script is the run on the script without its invalid messages, but for the invalid counter
  (erasure); (a) everything delivered is a hop-limit-255 message of the script; (b) inserting
  invalid messages anywhere changes neither deliveries, nor back-offs, nor the result; (c) the
  result is the oracle's, decided by the erased script; `consumed` is the shortest prefix that
  decides the result; the oracle of Spec/C09.lean accepts the model's output on every script, and
  nothing else.
  The `src_*` theorems state them for the listener of the source (`listenSrc`); they build only
  while the source's hop-limit branch does not consume a receive attempt.
-/
import Corerad.Spec.C09
import Corerad.Lemmas.Advertiser
import Corerad.Gen.Dialer

namespace Corerad.Props.C09

open Corerad Corerad.Model

/-- constants of `receiveRetry` as found in the source, and: a message with a bad hop limit
    does NOT consume a receive attempt (this lemma fails to build on a tree where it does). -/
theorem gen_constants :
    Gen.Listener.retries = 5 ∧ Gen.Listener.backoffUnit = 50 * ms ∧
    Gen.Listener.invalidConsumesAttempt = false := by decide

/-- The socket the listener reads from is set up as the validation assumes (calls of `dialNDP` in
    source order, regenerated): link-local listener, an ICMPv6 filter that blocks everything but
    router solicitations and router advertisements, the hop limit delivered with every message
    (the 255 test reads it), membership of the all-routers group (solicitations are sent there).
    The kernel's behaviour behind these calls is outside the model. -/
theorem gen_socket_setup :
    Gen.Dialer.dialNDPCalls =
      ["ndp.Listen(ifi, ndp.LinkLocal)", "f.SetAll(true)", "f.Accept(ipv6.ICMPTypeRouterSolicitation)",
       "f.Accept(ipv6.ICMPTypeRouterAdvertisement)", "c.SetICMPFilter(&f)",
       "c.SetControlMessage(ipv6.FlagHopLimit, true)", "c.JoinGroup(netip.IPv6LinkLocalAllRouters())"] := rfl

open Spec.C09

theorem gen_eq_spec :
    Gen.Listener.retries = Spec.C09.retries ∧ Gen.Listener.backoffUnit = Spec.C09.backoffUnit ∧
    Gen.Listener.invalidConsumesAttempt = false := by decide

/-- `listenSrc` runs with the regenerated constants; `gen_eq_spec` fails to build on a tree where a
    message with a bad hop limit consumes a receive attempt, or with other retry constants. -/
theorem listenSrc_eq (script : List Read) : listenSrc script = listen retries backoffUnit false script 0 := by
  unfold listenSrc; rw [gen_eq_spec.1, gen_eq_spec.2.1, gen_eq_spec.2.2]

/-! ### the listener read by read -/

/-- Induction over a script as the listener reads it (`i`: the attempt counter). -/
theorem listen_induction (n : Nat) {motive : List Read → Nat → Prop}
    (nil : ∀ i, motive [] i)
    (err : ∀ r i, motive (.err :: r) i)
    (last : ∀ r i, i + 1 ≥ n → motive (.timeout :: r) i)
    (timeout : ∀ r i, ¬ i + 1 ≥ n → motive r (i + 1) → motive (.timeout :: r) i)
    (valid : ∀ k h r i, motive r 0 → motive (.msg k 255 h :: r) i)
    (invalid : ∀ k hop h r i, hop ≠ 255 → motive r i → motive (.msg k hop h :: r) i) :
    ∀ s i, motive s i
  | [], i => nil i
  | .err :: r, i => err r i
  | .timeout :: r, i =>
    if h : i + 1 ≥ n then last r i h
    else timeout r i h (listen_induction n nil err last timeout valid invalid r (i + 1))
  | .msg k hop host :: r, i =>
    if hh : hop = 255 then hh ▸ valid k host r i (listen_induction n nil err last timeout valid invalid r 0)
    else invalid k hop host r i hh (listen_induction n nil err last timeout valid invalid r i)

theorem erase_err (r : List Read) : erase (.err :: r) = .err :: erase r := rfl

theorem erase_timeout (r : List Read) : erase (.timeout :: r) = .timeout :: erase r := rfl

theorem erase_valid (k h : Nat) (r : List Read) : erase (.msg k 255 h :: r) = .msg k 255 h :: erase r := rfl

theorem erase_invalid (k hop h : Nat) (r : List Read) (hh : hop ≠ 255) : erase (.msg k hop h :: r) = erase r := by
  simp [erase, isInvalid, hh]

theorem erase_append (a b : List Read) : erase (a ++ b) = erase a ++ erase b := by
  simp [erase]

theorem erase_timeouts (i : Nat) : erase (List.replicate i Read.timeout) = List.replicate i Read.timeout := by
  simp [erase, isInvalid]

theorem erase_all_invalid (inv : List Read) (h : inv.all isInvalid = true) : erase inv = [] := by
  simp only [List.all_eq_true] at h
  simp only [erase, List.filter_eq_nil_iff]
  intro a ha; simp [h a ha]

theorem erase_idem (s : List Read) : erase (erase s) = erase s := by
  simp [erase]

theorem erase_no_invalid (s : List Read) : ∀ r ∈ erase s, isInvalid r = false := by
  intro r hr
  simp only [erase, List.mem_filter] at hr
  simpa using hr.2

theorem listen_fields (n : Nat) (unit : Dur) (s : List Read) (i : Nat) :
    (listen n unit false s i).delivered = validOf (s.take (consumed n s i)) ∧
    (listen n unit false s i).invalid = invalidOf (s.take (consumed n s i)) ∧
    (listen n unit false s i).waits = backoffs unit (s.take (consumed n s i)) i := by
  induction s, i using listen_induction n with
  | nil i => simp [listen, consumed, validOf, invalidOf, backoffs]
  | err r i => simp [listen, consumed, validOf, invalidOf, backoffs]
  | last r i h => simp [listen, consumed, validOf, invalidOf, backoffs, h]
  | timeout r i h ih => simp [listen, consumed, validOf, invalidOf, backoffs, h, ih]
  | valid k h r i ih => simp [listen, consumed, validOf, invalidOf, backoffs, ih]
  | invalid k hop h r i hh ih => simp [listen, consumed, validOf, invalidOf, backoffs, hh, ih]

theorem consumed_running (n : Nat) (unit : Dur) (s : List Read) (i : Nat)
    (h : (listen n unit false s i).result = .running) : consumed n s i = s.length := by
  induction s, i using listen_induction n with
  | nil i => rfl
  | err r i => simp [listen] at h
  | last r i h1 => simp [listen, h1] at h
  | timeout r i h1 ih => simp [listen, h1] at h; simp [consumed, h1, ih h]
  | valid k host r i ih => simp [listen] at h; simp [consumed, ih h]
  | invalid k hop host r i hh ih => simp [listen, hh] at h; simp [consumed, hh, ih h]

theorem messages_only (retries : Nat) (unit : Dur) (script : List Read) (i : Nat)
    (h : script.all isMsg = true) :
    listen retries unit false script i =
      { delivered := validOf script, invalid := invalidOf script, waits := [], result := .running } := by
  induction script, i using listen_induction retries with
  | nil i => rfl
  | err r i => cases h
  | last r i _ => cases h
  | timeout r i _ _ => cases h
  | valid k host r i ih =>
    rw [listen, if_neg (by simp), ih h]
    simp [validOf, invalidOf]
  | invalid k hop host r i hh ih =>
    rw [listen, if_pos hh, if_neg (by simp), ih h]
    simp [validOf, invalidOf, hh]

/-- **No number or pattern of invalid messages stops the listener**: on any script of messages
    it never returns an error… -/
theorem never_fails (script : List Read) (h : script.all Spec.C09.isMsg = true) :
    (listenSrc script).result = .running := by
  rw [listenSrc_eq, messages_only _ _ script 0 h]

/-- …every valid message is delivered, in order… -/
theorem valid_all_delivered (script : List Read) (h : script.all Spec.C09.isMsg = true) :
    (listenSrc script).delivered = Spec.C09.validOf script := by
  rw [listenSrc_eq, messages_only _ _ script 0 h]

/-- …and every invalid one is counted, once. -/
theorem invalid_counted (script : List Read) (h : script.all Spec.C09.isMsg = true) :
    (listenSrc script).invalid = Spec.C09.invalidOf script := by
  rw [listenSrc_eq, messages_only _ _ script 0 h]

/-! ### erasure of invalid messages, over arbitrary scripts -/

/-- **Erasure.**  For ANY script (valid messages, invalid messages, timeouts, errors, in any mix,
    number and order) and any attempt counter: the listener's run on the script is its run on
    the script with every invalid message removed — same deliveries, same back-offs, same result
    — except that the invalid counter lists exactly the invalid messages among the reads the
    run consumed (`consumed`: up to and including the read that stopped it), in order; the run
    on the erased script counts none (`erased_counts_nothing`). -/
theorem erasure (n : Nat) (unit : Dur) (script : List Read) (i : Nat) :
    listen n unit false script i =
      { listen n unit false (erase script) i with
        invalid := invalidOf (script.take (consumed n script i)) } := by
  induction script, i using listen_induction n with
  | nil i => rfl
  | err r i => simp [listen, consumed, invalidOf, erase_err]
  | last r i h => simp [listen, consumed, invalidOf, erase_timeout, h]
  | timeout r i h ih =>
    rw [listen, if_neg h, ih]
    simp [listen, consumed, invalidOf, erase_timeout, h]
  | valid k h r i ih =>
    rw [listen, ih]
    simp [listen, consumed, invalidOf, erase_valid]
  | invalid k hop h r i hh ih =>
    rw [listen, ih]
    simp [consumed, invalidOf, erase_invalid, hh]

theorem erased_counts_nothing (n : Nat) (unit : Dur) (script : List Read) (i : Nat) :
    (listen n unit false (erase script) i).invalid = [] := by
  induction script, i using listen_induction n with
  | nil i => rfl
  | err r i => simp [listen, erase_err]
  | last r i h => simp [listen, erase_timeout, h]
  | timeout r i h ih => simpa [listen, erase_timeout, h] using ih
  | valid k h r i ih => simpa [listen, erase_valid] using ih
  | invalid k hop h r i hh ih => simpa [erase_invalid, hh] using ih

/-! ### (a) an invalid message is never delivered -/

theorem mem_validOf : ∀ (s : List Read) (d : Nat × Nat), d ∈ validOf s → Read.msg d.1 255 d.2 ∈ s
  | [], d, h => by simp [validOf] at h
  | .err :: r, d, h => List.mem_cons_of_mem _ (mem_validOf r d (by simpa [validOf] using h))
  | .timeout :: r, d, h => List.mem_cons_of_mem _ (mem_validOf r d (by simpa [validOf] using h))
  | .msg k hop host :: r, d, h => by
    by_cases hh : hop = 255
    · subst hh
      rcases (by simpa [validOf] using h : d = (k, host) ∨ d ∈ validOf r) with rfl | h
      · exact List.mem_cons_self
      · exact List.mem_cons_of_mem _ (mem_validOf r d h)
    · exact List.mem_cons_of_mem _ (mem_validOf r d (by simpa [validOf, hh] using h))

/-- **(a)** Whatever the script and the attempt counter: everything delivered is a message of the
    script with hop limit 255 — a message with another hop limit is never delivered. -/
theorem invalid_never_delivered (n : Nat) (unit : Dur) (script : List Read) (i : Nat) (d : Nat × Nat)
    (h : d ∈ (listen n unit false script i).delivered) : Read.msg d.1 255 d.2 ∈ script := by
  rw [(listen_fields n unit script i).1] at h
  exact List.mem_of_mem_take (mem_validOf _ d h)

/-- …in particular a script without a valid message delivers nothing, whatever else it holds -/
theorem nothing_valid_nothing_delivered (n : Nat) (unit : Dur) (script : List Read) (i : Nat)
    (h : ∀ k host, Read.msg k 255 host ∉ script) : (listen n unit false script i).delivered = [] := by
  apply List.eq_nil_iff_forall_not_mem.mpr
  intro d hd
  exact h _ _ (invalid_never_delivered n unit script i d hd)

/-! ### (b) invalid messages anywhere change nothing but the invalid counter -/

theorem erase_eq_inert (n : Nat) (unit : Dur) (s s' : List Read) (i : Nat) (h : erase s = erase s') :
    (listen n unit false s i).delivered = (listen n unit false s' i).delivered ∧
    (listen n unit false s i).waits = (listen n unit false s' i).waits ∧
    (listen n unit false s i).result = (listen n unit false s' i).result := by
  rw [erasure n unit s, erasure n unit s', h]
  exact ⟨rfl, rfl, rfl⟩

/-- `InsertInvalid s s'`: `s'` is `s` with any number of invalid messages inserted anywhere -/
inductive InsertInvalid : List Read → List Read → Prop
  | nil : InsertInvalid [] []
  | keep (x : Read) {s s' : List Read} : InsertInvalid s s' → InsertInvalid (x :: s) (x :: s')
  | ins (x : Read) {s s' : List Read} : isInvalid x = true → InsertInvalid s s' → InsertInvalid s (x :: s')

theorem InsertInvalid.erase_eq {s s' : List Read} (h : InsertInvalid s s') : erase s = erase s' := by
  induction h with
  | nil => rfl
  | keep x _ ih => simp only [erase, List.filter_cons] at ih ⊢; rw [ih]
  | ins x hx _ ih => simp only [erase, List.filter_cons, hx] at ih ⊢; simpa using ih

/-- **(b)** Inserting any number of invalid messages anywhere into any script (timeouts, errors and
    valid messages included), at any attempt counter, changes neither what is delivered, nor the
    back-offs, nor the result: invalid messages can neither cause nor mask a failure, and neither
    reset nor advance the retry counter. -/
theorem insert_invalid_inert (n : Nat) (unit : Dur) (s s' : List Read) (i : Nat) (h : InsertInvalid s s') :
    (listen n unit false s' i).delivered = (listen n unit false s i).delivered ∧
    (listen n unit false s' i).waits = (listen n unit false s i).waits ∧
    (listen n unit false s' i).result = (listen n unit false s i).result :=
  erase_eq_inert n unit s' s i h.erase_eq.symm

/-- the same for one block of invalid messages between any two parts of a script -/
theorem insert_block_inert (n : Nat) (unit : Dur) (pre inv post : List Read) (i : Nat)
    (h : inv.all isInvalid = true) :
    (listen n unit false (pre ++ inv ++ post) i).delivered = (listen n unit false (pre ++ post) i).delivered ∧
    (listen n unit false (pre ++ inv ++ post) i).waits = (listen n unit false (pre ++ post) i).waits ∧
    (listen n unit false (pre ++ inv ++ post) i).result = (listen n unit false (pre ++ post) i).result := by
  apply erase_eq_inert
  simp [erase_append, erase_all_invalid inv h]

/-! ### (c) what decides the result

  `n` timeouts in a row before any error, in the erased script: the oracle searches for them
  (`hasTimeoutRun`, `beforeErr`), the listener counts (`i`).  The two meet in
  `result_eq_expected_at`; what follows it is about lists only. -/

/-- `l` has `n` consecutive timeouts -/
def HasRun (n : Nat) (l : List Read) : Prop := ∃ a b, l = a ++ List.replicate n Read.timeout ++ b

theorem hasRun_iff_infix (n : Nat) (l : List Read) : HasRun n l ↔ List.replicate n Read.timeout <:+: l := by
  simp only [HasRun, List.IsInfix, eq_comm]

theorem hasTimeoutRun_iff (n : Nat) (l : List Read) : hasTimeoutRun n l = true ↔ HasRun n l := by
  rw [hasRun_iff_infix]
  induction l with
  | nil => simp [hasTimeoutRun]
  | cons x r ih => simp [hasTimeoutRun, List.infix_cons_iff, ih]

/-- a row of fewer than `n` timeouts that ends there is no start of `n` timeouts -/
theorem not_prefix_row (l : List Read) (hl : l.head? ≠ some .timeout) : ∀ (j n : Nat), j < n →
    (List.replicate n Read.timeout).isPrefixOf (List.replicate j .timeout ++ l) = false
  | 0, n + 1, _ => by
    cases l with
    | nil => rfl
    | cons x r =>
      have : x ≠ .timeout := by simpa using hl
      simp [List.replicate_succ, List.isPrefixOf, Ne.symm this]
  | j + 1, n + 1, h => by
    simpa [List.replicate_succ, List.isPrefixOf] using not_prefix_row l hl j n (by omega)

/-- …so `n` timeouts in a row are found behind it or not at all -/
theorem hasTimeoutRun_row (n : Nat) (l : List Read) (hl : l.head? ≠ some .timeout) : ∀ i, i < n →
    hasTimeoutRun n (List.replicate i .timeout ++ l) = hasTimeoutRun n l
  | 0, _ => rfl
  | i + 1, h => by
    have hp := not_prefix_row l hl (i + 1) n h
    simp only [List.replicate_succ, List.cons_append] at hp ⊢
    simp only [hasTimeoutRun, hp, Bool.false_or, hasTimeoutRun_row n l hl i (by omega)]

theorem hasTimeoutRun_cons (n : Nat) (hn : 0 < n) (x : Read) (l : List Read) (hx : x ≠ .timeout) :
    hasTimeoutRun n (x :: l) = hasTimeoutRun n l := by
  have := not_prefix_row (x :: l) (by simpa using hx) 0 n hn
  simp only [List.replicate_zero, List.nil_append] at this
  simp only [hasTimeoutRun, this, Bool.false_or]

theorem beforeErr_err (r : List Read) : beforeErr (.err :: r) = [] := by simp [beforeErr]

theorem beforeErr_cons (x : Read) (r : List Read) (hx : x ≠ .err) : beforeErr (x :: r) = x :: beforeErr r := by
  simp [beforeErr, hx]

theorem beforeErr_append (a b : List Read) (ha : Read.err ∉ a) : beforeErr (a ++ b) = a ++ beforeErr b :=
  List.takeWhile_append_of_pos fun x hx => by
    simp only [bne_iff_ne, ne_eq]
    rintro rfl
    exact ha hx

theorem beforeErr_not_mem (l : List Read) : Read.err ∉ beforeErr l := fun h => by
  simpa using List.all_eq_true.mp List.all_takeWhile _ h

theorem beforeErr_of_not_mem (l : List Read) (h : Read.err ∉ l) : beforeErr l = l := by
  simpa [beforeErr] using beforeErr_append l [] h

theorem eq_beforeErr_append : ∀ (l : List Read), Read.err ∈ l → ∃ post, l = beforeErr l ++ Read.err :: post
  | x :: r, h => by
    by_cases hx : x = Read.err
    · exact ⟨r, by rw [hx, beforeErr_err]; rfl⟩
    · obtain ⟨post, hp⟩ := eq_beforeErr_append r (by simpa [Ne.symm hx] using h)
      exact ⟨post, by rw [beforeErr_cons x r hx, List.cons_append, ← hp]⟩

theorem hasRun_beforeErr (n : Nat) (l : List Read) :
    HasRun n (beforeErr l) ↔ ∃ pre post, l = pre ++ List.replicate n Read.timeout ++ post ∧ Read.err ∉ pre := by
  constructor
  · rintro ⟨a, b, hab⟩
    refine ⟨a, b ++ l.dropWhile (fun r => r != Read.err), ?_, fun hm => beforeErr_not_mem l (by rw [hab]; simp [hm])⟩
    rw [← List.append_assoc, ← hab]
    exact List.takeWhile_append_dropWhile.symm
  · rintro ⟨pre, post, rfl, he⟩
    refine ⟨pre, beforeErr post, ?_⟩
    rw [List.append_assoc, beforeErr_append _ _ he, beforeErr_append _ _ (by simp), List.append_assoc]

theorem expectedResultN_row (n i : Nat) (s : List Read) :
    expectedResultN n (List.replicate i .timeout ++ s) =
      if hasTimeoutRun n (List.replicate i .timeout ++ beforeErr (erase s)) then .retriesExhausted
      else if (erase s).contains Read.err then .readError else .running := by
  simp [expectedResultN, erase_append, erase_timeouts, beforeErr_append]

theorem row_succ (i : Nat) (r : List Read) :
    List.replicate i Read.timeout ++ .timeout :: r = List.replicate (i + 1) .timeout ++ r := by
  rw [List.replicate_succ', List.append_assoc]; rfl

/-- **(c), decidable form, at any attempt counter** `i < n` (the state inside one `receiveRetry`
    call after `i` timeouts): the result is the one the oracle computes from the script with the
    `i` timeouts already counted put in front. -/
theorem result_eq_expected_at (n : Nat) (unit : Dur) (script : List Read) (i : Nat) (hi : i < n) :
    (listen n unit false script i).result = expectedResultN n (List.replicate i .timeout ++ script) := by
  have hn : (n == 0) = false := by simp; omega
  induction script, i using listen_induction n with
  | nil i =>
    rw [expectedResultN_row, erase, List.filter_nil, beforeErr, List.takeWhile_nil,
      hasTimeoutRun_row n _ (by simp) i hi]
    simp [listen, hasTimeoutRun, hn]
  | err r i =>
    rw [expectedResultN_row, erase_err, beforeErr_err, hasTimeoutRun_row n _ (by simp) i hi]
    simp [listen, hasTimeoutRun, hn]
  | last r i h =>
    have : hasTimeoutRun n (List.replicate n .timeout ++ beforeErr (erase r)) = true :=
      (hasTimeoutRun_iff n _).mpr ⟨[], _, rfl⟩
    rw [row_succ, show i + 1 = n by omega, expectedResultN_row, this]
    simp [listen, h]
  | timeout r i h ih =>
    rw [row_succ, ← ih (by omega)]
    simp [listen, h]
  | valid k h r i ih =>
    -- a valid message ends the row: the search goes on behind it, the listener starts a new count
    rw [expectedResultN_row, erase_valid, beforeErr_cons _ _ (by simp), hasTimeoutRun_row n _ (by simp) i hi,
      hasTimeoutRun_cons n (by omega) _ _ (by simp)]
    simpa [listen, expectedResultN] using ih (by omega)
  | invalid k hop h r i hh ih =>
    rw [expectedResultN_row, erase_invalid k hop h r hh, ← expectedResultN_row, ← ih hi]
    simp [listen, hh]

/-- **(c), decidable form.**  The result of the listener on any script is the one the oracle
    computes from the erased script. -/
theorem result_eq_expected (n : Nat) (unit : Dur) (hn : 0 < n) (script : List Read) :
    (listen n unit false script 0).result = expectedResultN n script :=
  result_eq_expected_at n unit script 0 hn

theorem expectedResultN_cases (n : Nat) (s : List Read) :
    (expectedResultN n s = .retriesExhausted ↔ HasRun n (beforeErr (erase s))) ∧
    (expectedResultN n s = .readError ↔ Read.err ∈ erase s ∧ ¬ HasRun n (beforeErr (erase s))) ∧
    (expectedResultN n s = .running ↔ Read.err ∉ erase s ∧ ¬ HasRun n (beforeErr (erase s))) := by
  rw [← hasTimeoutRun_iff, expectedResultN]
  by_cases h1 : hasTimeoutRun n (beforeErr (erase s)) = true <;> by_cases h2 : Read.err ∈ erase s <;>
    simp [h1, h2]

/-- **(c), at any attempt counter** `i < n` (the state inside one `receiveRetry` call after `i`
    timeouts): exhausted iff the `i` timeouts already counted, followed by the erased script, show
    `n` consecutive timeouts before any error. -/
theorem exhausted_iff_at (n : Nat) (unit : Dur) (script : List Read) (i : Nat) (hi : i < n) :
    (listen n unit false script i).result = .retriesExhausted ↔
      ∃ pre post, List.replicate i Read.timeout ++ erase script = pre ++ List.replicate n Read.timeout ++ post ∧
        Read.err ∉ pre := by
  rw [result_eq_expected_at n unit script i hi, (expectedResultN_cases n _).1, hasRun_beforeErr,
    erase_append, erase_timeouts]

/-- **(c)** The result is `retriesExhausted` iff the script, its invalid messages erased, has `n`
    consecutive timeouts (not separated by a valid message) before any error. -/
theorem exhausted_iff (n : Nat) (unit : Dur) (hn : 0 < n) (script : List Read) :
    (listen n unit false script 0).result = .retriesExhausted ↔
      ∃ pre post, erase script = pre ++ List.replicate n Read.timeout ++ post ∧ Read.err ∉ pre :=
  exhausted_iff_at n unit script 0 hn

/-- **(c)** The result is `readError` iff the erased script has an error and no `n` consecutive
    timeouts before it. -/
theorem readError_iff (n : Nat) (unit : Dur) (hn : 0 < n) (script : List Read) :
    (listen n unit false script 0).result = .readError ↔
      ∃ pre post, erase script = pre ++ Read.err :: post ∧ Read.err ∉ pre ∧ ¬ HasRun n pre := by
  rw [result_eq_expected n unit hn, (expectedResultN_cases n script).2.1]
  constructor
  · rintro ⟨he, hr⟩
    obtain ⟨post, hp⟩ := eq_beforeErr_append _ he
    exact ⟨_, post, hp, beforeErr_not_mem _, hr⟩
  · rintro ⟨pre, post, hp, he, hr⟩
    rw [hp, beforeErr_append _ _ he, beforeErr_err, List.append_nil]
    exact ⟨by simp, hr⟩

/-- **(c)** The listener is still running iff the erased script has neither an error nor `n`
    consecutive timeouts. -/
theorem running_iff (n : Nat) (unit : Dur) (hn : 0 < n) (script : List Read) :
    (listen n unit false script 0).result = .running ↔
      Read.err ∉ erase script ∧ ¬ HasRun n (erase script) := by
  rw [result_eq_expected n unit hn, (expectedResultN_cases n script).2.2]
  exact and_congr_right fun he => by rw [beforeErr_of_not_mem _ he]

/-! ### `consumed`: the reads the run depends on -/

theorem consumed_le (n : Nat) : ∀ (s : List Read) (i : Nat), consumed n s i ≤ s.length := by
  intro s i
  induction s, i using listen_induction n with
  | nil i => simp [consumed]
  | err r i => simp [consumed]
  | last r i h => simp [consumed, h]
  | timeout r i h ih => simpa [consumed, h] using ih
  | valid k h r i ih => simpa [consumed] using ih
  | invalid k hop h r i hh ih => simpa [consumed, hh] using ih

/-- the reads after the consumed prefix do not matter: the whole observation is that of the prefix -/
theorem take_consumed (n : Nat) (unit : Dur) : ∀ (s : List Read) (i : Nat),
    listen n unit false (s.take (consumed n s i)) i = listen n unit false s i := by
  intro s i
  induction s, i using listen_induction n with
  | nil i => simp [consumed]
  | err r i => simp [consumed, listen]
  | last r i h => simp [consumed, listen, h]
  | timeout r i h ih => simp [consumed, listen, h, ih]
  | valid k h r i ih => simp [consumed, listen, ih]
  | invalid k hop h r i hh ih => simp [consumed, listen, hh, ih]

/-- …and no shorter prefix decides the result: on every strictly shorter prefix the listener is
    still running.  With `take_consumed`: `consumed` is the length of the shortest prefix on which
    a result other than `running` is reached (the whole script if there is none). -/
theorem consumed_least (n : Nat) (unit : Dur) : ∀ (s : List Read) (i m : Nat), m < consumed n s i →
    (listen n unit false (s.take m) i).result = .running := by
  intro s i
  induction s, i using listen_induction n with
  | nil i => intro m h; simp [consumed] at h
  | err r i => intro m h; simp [show m = 0 by simpa [consumed] using h, listen]
  | last r i h1 => intro m h; simp [show m = 0 by simpa [consumed, h1] using h, listen]
  | timeout r i h1 ih =>
    intro m h
    cases m with
    | zero => simp [listen]
    | succ m => simpa [listen, h1] using ih m (by simpa [consumed, h1] using h)
  | valid k host r i ih =>
    intro m h
    cases m with
    | zero => simp [listen]
    | succ m => simpa [listen] using ih m (by simpa [consumed] using h)
  | invalid k hop host r i hh ih =>
    intro m h
    cases m with
    | zero => simp [listen]
    | succ m => simpa [listen, hh] using ih m (by simpa [consumed, hh] using h)

/-! ### the oracle accepts the model's output, and nothing else -/

/-- On EVERY script (messages, invalid messages, timeouts, errors in any mix and number) the
    model's output is the observation the oracle computes from the script. -/
theorem model_eq_expected (script : List Read) : listenSrc script = expected script := by
  obtain ⟨hd, hi, hw⟩ := listen_fields retries backoffUnit script 0
  have hr := result_eq_expected retries backoffUnit (by decide) script
  rw [listenSrc_eq]
  cases h : listen retries backoffUnit false script 0
  simp only [h] at hd hi hw hr
  simp only [expected, consumedPrefix, expectedResult, hd, hi, hw, hr]

/-- the oracle accepts exactly one observation per script -/
theorem holds_iff (script : List Read) (o : ListenOut) : holds script o = true ↔ o = expected script := by
  constructor
  · intro h
    simp only [holds, deliveredOk, invalidOk, resultOk, waitsOk, Bool.and_eq_true, beq_iff_eq] at h
    obtain ⟨⟨⟨⟨_, hd⟩, hi⟩, hr⟩, hw⟩ := h
    cases o
    simp only [expected, ListenOut.mk.injEq]
    exact ⟨hd, hi, hw, hr⟩
  · rintro rfl
    have h1 : noInvalidDelivered script (expected script) = true := by
      simp only [noInvalidDelivered, List.all_eq_true, List.contains_iff_mem, expected, consumedPrefix]
      intro d hd
      exact List.mem_of_mem_take (mem_validOf _ d hd)
    simp only [holds, h1, Bool.true_and]
    simp [deliveredOk, invalidOk, resultOk, waitsOk, expected]

/-- **The model satisfies the oracle on every script.** -/
theorem holds_model (script : List Read) : holds script (listenSrc script) = true :=
  (holds_iff script _).mpr (model_eq_expected script)

/-- …and whatever the oracle accepts is the model's output: an implementation that passes the
    oracle on a script behaved, on that script, exactly as the model. -/
theorem holds_unique (script : List Read) (o : ListenOut) (h : holds script o = true) :
    o = listenSrc script := by
  rw [model_eq_expected]; exact (holds_iff script o).mp h

/-- the oracle implies the weaker one that judges scripts of messages only -/
theorem holds_messagesOnly (script : List Read) (o : ListenOut) (h : holds script o = true) :
    holdsMessagesOnly script o = true := by
  rw [holds_unique script o h, listenSrc_eq, holdsMessagesOnly]
  by_cases hm : script.all isMsg = true
  · simp [messages_only _ _ script 0 hm]
  · simp [hm]

/-- the note of the driver names a clause iff the oracle rejects -/
theorem failedClause_iff (script : List Read) (o : ListenOut) :
    failedClause script o = "" ↔ holds script o = true := by
  unfold failedClause holds
  cases noInvalidDelivered script o
  · simp
  cases deliveredOk script o
  · simp
  cases invalidOk script o
  · simp
  cases resultOk script o
  · simp
  cases waitsOk script o <;> simp

/-! ### the same for the listener as it is in the source -/

/-- **Erasure, for the source's listener.** -/
theorem src_erasure (script : List Read) :
    listenSrc script = { listenSrc (erase script) with invalid := invalidOf (consumedPrefix script) } := by
  rw [listenSrc_eq, listenSrc_eq]; exact erasure retries backoffUnit script 0

/-- **(a)** on any script, everything the source's listener delivers is a message of the script
    with hop limit 255 -/
theorem src_invalid_never_delivered (script : List Read) (d : Nat × Nat)
    (h : d ∈ (listenSrc script).delivered) : Read.msg d.1 255 d.2 ∈ script := by
  rw [listenSrc_eq] at h; exact invalid_never_delivered _ _ script 0 d h

/-- **(b)** any number of invalid messages inserted anywhere into any script: same deliveries,
    same back-offs, same result -/
theorem src_insert_invalid_inert (s s' : List Read) (h : InsertInvalid s s') :
    (listenSrc s').delivered = (listenSrc s).delivered ∧ (listenSrc s').waits = (listenSrc s).waits ∧
    (listenSrc s').result = (listenSrc s).result := by
  rw [listenSrc_eq, listenSrc_eq]; exact insert_invalid_inert _ _ s s' 0 h

/-- **(c)** the source's listener gives up iff the script without its invalid messages has five
    consecutive timeouts before any error.  The counter belongs to one `receiveRetry` call: a
    delivered message starts a new count, so "consecutive" means not separated by a valid message. -/
theorem src_exhausted_iff (script : List Read) :
    (listenSrc script).result = .retriesExhausted ↔
      ∃ pre post, erase script = pre ++ List.replicate 5 Read.timeout ++ post ∧ Read.err ∉ pre := by
  rw [listenSrc_eq]; exact exhausted_iff retries backoffUnit (by decide) script

/-- **No number or pattern of invalid messages, interleaved with timeouts or not, makes the
    listener fail**: if the script without its invalid messages has neither an error nor five
    consecutive timeouts, the listener is still running at its end, has consumed all of it and
    has delivered every valid message, in order — whatever invalid messages the script holds. -/
theorem src_never_fails (script : List Read)
    (he : Read.err ∉ erase script) (hr : ¬ HasRun 5 (erase script)) :
    (listenSrc script).result = .running ∧ (listenSrc script).delivered = validOf script ∧
    (listenSrc script).invalid = invalidOf script := by
  have h : (listen retries backoffUnit false script 0).result = .running :=
    (running_iff retries backoffUnit (by decide) script).mpr ⟨he, hr⟩
  obtain ⟨hd, hi, _⟩ := listen_fields retries backoffUnit script 0
  rw [consumed_running _ _ script 0 h, List.take_length] at hd hi
  rw [listenSrc_eq]
  exact ⟨h, hd, hi⟩

/-! ### two observations that `holdsMessagesOnly` accepts and `holds` rejects -/

/-- a timeout, an invalid message, a valid one: `holdsMessagesOnly` accepts "retries exhausted" (it
    judges scripts of messages only), `holds` rejects it -/
example : holdsMessagesOnly [.timeout, .msg 0 64 2, .msg 0 255 1] { result := .retriesExhausted } = true ∧
    holds [.timeout, .msg 0 64 2, .msg 0 255 1] { result := .retriesExhausted } = false := by decide

/-- the same script with the invalid message delivered: `holds` rejects it by its first clause -/
example :
    holdsMessagesOnly [.timeout, .msg 0 64 2, .msg 0 255 1]
      { delivered := [(0, 2), (0, 1)], waits := [0], result := .running } = true ∧
    holds [.timeout, .msg 0 64 2, .msg 0 255 1]
      { delivered := [(0, 2), (0, 1)], waits := [0], result := .running } = false ∧
    noInvalidDelivered [.timeout, .msg 0 64 2, .msg 0 255 1]
      { delivered := [(0, 2), (0, 1)], waits := [0], result := .running } = false := by decide

/-- the one observation accepted on that script; each clause rejects on its own -/
example :
    holds [.timeout, .msg 0 64 2, .msg 0 255 1]
      { delivered := [(0, 1)], invalid := [0], waits := [0], result := .running } = true ∧
    deliveredOk [.timeout, .msg 0 64 2, .msg 0 255 1]
      { delivered := [], invalid := [0], waits := [0], result := .running } = false ∧
    invalidOk [.timeout, .msg 0 64 2, .msg 0 255 1]
      { delivered := [(0, 1)], invalid := [], waits := [0], result := .running } = false ∧
    resultOk [.timeout, .msg 0 64 2, .msg 0 255 1]
      { delivered := [(0, 1)], invalid := [0], waits := [0], result := .readError } = false ∧
    waitsOk [.timeout, .msg 0 64 2, .msg 0 255 1]
      { delivered := [(0, 1)], invalid := [0], waits := [50 * ms], result := .running } = false := by decide

/-! ### non-vacuity: one mixed script

  invalid, timeout, invalid, timeout, VALID, timeout, invalid, timeout, timeout, invalid, timeout,
  timeout (the fifth in a row: invalid messages in between do not restart the count, the valid
  message did), then a valid message and an error that are never read. -/

def mixed : List Read :=
  [.msg 0 64 2, .timeout, .msg 1 7 3, .timeout, .msg 0 255 1, .timeout, .msg 2 0 0, .timeout, .timeout,
   .msg 3 1 4, .timeout, .timeout, .msg 0 255 9, .err]

/-- `erasure`, `erased_counts_nothing`, `listen_fields`, `take_consumed`, `consumed_least` on the
    mixed script -/
example :
    erase mixed = [.timeout, .timeout, .msg 0 255 1, .timeout, .timeout, .timeout, .timeout, .timeout,
                   .msg 0 255 9, .err] ∧
    consumed 5 mixed 0 = 12 ∧
    listenSrc mixed = { delivered := [(0, 1)], invalid := [0, 1, 2, 3],
                        waits := [0, 50 * ms, 0, 50 * ms, 100 * ms, 150 * ms, 200 * ms],
                        result := .retriesExhausted } ∧
    listenSrc (erase mixed) = { delivered := [(0, 1)], invalid := [],
                                waits := [0, 50 * ms, 0, 50 * ms, 100 * ms, 150 * ms, 200 * ms],
                                result := .retriesExhausted } ∧
    invalidOf (mixed.take 12) = [0, 1, 2, 3] ∧ invalidOf mixed = [0, 1, 2, 3] ∧
    validOf (mixed.take 12) = [(0, 1)] ∧ validOf mixed = [(0, 1), (0, 9)] ∧
    listenSrc (mixed.take 12) = listenSrc mixed ∧ (listenSrc (mixed.take 11)).result = .running ∧
    holds mixed (listenSrc mixed) = true := by decide +kernel

/-- (c): the witnesses of `src_exhausted_iff` on the mixed script; with a valid message inside the
    run of five there is no exhaustion but the read error (`readError_iff`), and without the
    error the listener is still running (`running_iff`, `src_never_fails`) -/
example :
    (erase mixed = [.timeout, .timeout, .msg 0 255 1] ++ List.replicate 5 Read.timeout ++ [.msg 0 255 9, .err] ∧
      Read.err ∉ [Read.timeout, .timeout, .msg 0 255 1]) ∧
    (listenSrc [.timeout, .timeout, .msg 1 3 3, .timeout, .timeout, .msg 0 255 1, .timeout, .msg 1 3 3, .err,
                .timeout, .timeout, .timeout, .timeout, .timeout]).result = .readError ∧
    hasTimeoutRun 5 [.timeout, .timeout, .timeout, .timeout, .msg 0 255 1, .timeout] = false ∧
    (listenSrc [.timeout, .timeout, .msg 1 3 3, .timeout, .timeout, .msg 0 255 1, .timeout, .msg 1 3 3]).result
      = .running ∧
    (listenSrc [.timeout, .timeout, .msg 1 3 3, .timeout, .timeout, .msg 0 255 1, .timeout, .msg 1 3 3]).delivered
      = [(0, 1)] := by decide

/-- (b): invalid messages inserted at the head, between timeouts and before the error of a script
    (`InsertInvalid`, `src_insert_invalid_inert`); with `invalidConsumesAttempt = true` — the
    defect F-6 — the same insertion turns a surviving listener into a failed one -/
example :
    InsertInvalid [.timeout, .timeout, .timeout, .msg 0 255 1, .err]
      [.msg 0 1 1, .timeout, .msg 0 2 2, .msg 0 3 3, .timeout, .timeout, .msg 0 255 1, .msg 1 4 4, .err] ∧
    (listenSrc [.msg 0 1 1, .timeout, .msg 0 2 2, .msg 0 3 3, .timeout, .timeout, .msg 0 255 1, .msg 1 4 4, .err]).result
      = .readError ∧
    (listenSrc [.msg 0 1 1, .timeout, .msg 0 2 2, .msg 0 3 3, .timeout, .timeout, .msg 0 255 1, .msg 1 4 4, .err]).delivered
      = [(0, 1)] ∧
    (listen 5 (50 * ms) true
      [.msg 0 1 1, .timeout, .msg 0 2 2, .msg 0 3 3, .timeout, .timeout, .msg 0 255 1, .msg 1 4 4, .err] 0).result
      = .retriesExhausted ∧
    (listen 5 (50 * ms) true
      [.msg 0 1 1, .timeout, .msg 0 2 2, .msg 0 3 3, .timeout, .timeout, .msg 0 255 1, .msg 1 4 4, .err] 0).delivered
      = [] := by
  refine ⟨?_, by decide, by decide, by decide, by decide⟩
  exact .ins _ rfl (.keep _ (.ins _ rfl (.ins _ rfl (.keep _ (.keep _ (.keep _ (.ins _ rfl (.keep _ .nil))))))))

/-- Non-vacuity, and the repaired defect F-6: seven messages with a bad hop limit followed by a
    valid solicitation — the solicitation is delivered (with `invalidConsumesAttempt = true`
    the listener died after the fifth). -/
example :
    let script := List.replicate 7 (Read.msg 0 64 2) ++ [Read.msg 0 255 1]
    (listenSrc script).delivered = [(0, 1)] ∧ (listenSrc script).result = .running ∧
    (listen 5 (50 * ms) true script 0).result = .retriesExhausted ∧
    (listen 5 (50 * ms) true script 0).delivered = [] := by
  decide

/-! ### on an advertising interface -/

/-- Invalid messages are inert on an advertising interface: a message with a bad hop limit, or
    of a type other than router solicitation, never produces an RA request; only router
    advertisements (type 1) reach the consistency check. -/
theorem invalid_inert (e : AdvEvent) (h : e.hop ≠ 255 ∨ e.kind ≥ 2) : requestOf e = none := by
  rw [requestOf_eq]
  exact if_neg (by omega)

/-! ### rows of timeouts -/

/-- Receive timeouts are retried with increasing back-off: `k < 5` consecutive timeouts are
    survived with waits 0, 50, …, (k−1)·50 ms; the 5th exhausts the retries (C10). -/
theorem timeouts_retried :
    (listenSrc [.timeout, .timeout, .timeout, .timeout, .msg 0 255 1]).waits = [0, 50 * ms, 100 * ms, 150 * ms] ∧
    (listenSrc [.timeout, .timeout, .timeout, .timeout, .msg 0 255 1]).result = .running ∧
    (listenSrc [.timeout, .timeout, .timeout, .timeout, .timeout]).result = .retriesExhausted ∧
    (listenSrc [.timeout, .timeout, .timeout, .timeout, .timeout]).waits = [0, 50 * ms, 100 * ms, 150 * ms, 200 * ms] := by
  decide

/-- for any number `n` of consecutive timeouts: survived iff `n < retries` -/
theorem timeouts_general (retries : Nat) (unit : Dur) (ic : Bool) :
    ∀ (n i : Nat), (listen retries unit ic (List.replicate n .timeout) i).result =
      if i + n ≥ retries ∧ n > 0 then .retriesExhausted else .running
  | 0, i => by simp [listen]
  | n+1, i => by
    simp only [List.replicate_succ, listen]
    by_cases h : i + 1 ≥ retries
    · simp [h]; omega
    · simp only [h, if_false, timeouts_general retries unit ic n (i + 1)]
      by_cases h2 : i + 1 + n ≥ retries ∧ n > 0
      · rw [if_pos h2, if_pos ⟨by omega, by omega⟩]
      · rw [if_neg h2, if_neg (by omega)]

end Corerad.Props.C09
