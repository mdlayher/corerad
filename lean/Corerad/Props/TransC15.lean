/-
  TransC15 — `(*Route).current` (internal/plugin/plugin.go) tied to `Model.currentRoutes` by
  REGENERATION (tools/extract/translate_loop.go; see Props/TransC13.lean for the scheme).

  The labelled loop `outer: for _, rt := range routes` becomes a left fold over the route dump
  with the state (`prefixes`, `seen`); the inner loop
  `for _, rt2 := range routes { if rt2.Prefix.Bits() < rt.Prefix.Bits() && rt2.Prefix.Contains(rt.Prefix.Addr()) { continue outer } }`
  becomes `List.any routes …` guarding the unchanged state.  `Route_current_equiv` states, for EVERY
  dump of valid prefixes, equality with the declarative model
  `sortBy addrKey ∘ dedupe ∘ filter (routeKept dump)` — the function the C15 theorems (maximal,
  non-overlapping, duplicate-free, ascending, permutation-invariant) are about.  Comparing `≤`
  instead of `<`, testing containment the other way round, looking the covering route up among the
  kept ones instead of the whole dump, dropping the /128 or IPv4 exclusion, recording `seen` before
  the covering test: each changes the translated definition and the proof stops checking.
-/
import Corerad.Gen.Trans
import Corerad.Lemmas.LoopFold
import Corerad.Props.TransC13

namespace Corerad.Props.TransC15

open Corerad Corerad.Model Corerad.Lemmas.LoopFold Corerad.Props.TransC13

/-- what the operating system hands over: valid prefixes of well-formed addresses -/
def WF (rs : List Prefix) : Prop := ∀ r ∈ rs, r.isValid = true ∧ r.addr.val < 2^128

/-- **`(*Route).current()` as translated from the source is `Model.currentRoutes`**, for every
    route dump (any length, order, multiplicity) of valid prefixes. -/
theorem Route_current_equiv (rs : List Prefix) (hwf : WF rs) :
    Gen.Trans.Route_current (recv_Routes := some rs) (Route_Prefix := fun (r : Prefix) => r)
        (Prefix_Addr := fun p => p.addr) (Addr_Is4 := IP.is4) (Prefix_IsSingleIP := Prefix.isSingleIP)
        (Prefix_Bits := goBits) (Prefix_Contains := Prefix.contains) (Addr_Compare := compareInt)
      = some (currentRoutes rs) := by
  unfold Gen.Trans.Route_current currentRoutes
  simp only [Option.some.injEq]
  refine (seenLoop_sorted _ (routeKept rs) (fun r => r) _ (fun p => addrKey p.addr) rs ?_ ?_).trans
    (by rw [List.map_id'])
  · intro st rt hrt
    -- `Bits()` is -1 for an invalid prefix, and such a prefix contains nothing
    have hany : List.any rs (fun rt2 => decide (goBits rt2 < goBits rt) && rt2.contains rt.addr)
        = List.any rs (fun q => decide (q.bits < rt.bits) && q.contains rt.addr) := by
      apply List.any_congr rfl
      intro q
      by_cases hq : q.isValid = true
      · rw [goBits_valid q hq, goBits_valid rt (hwf rt hrt).1]
        congr 1
        exact decide_eq_decide.mpr Int.ofNat_lt
      · have hq' : q.isValid = false := by simpa using hq
        have : q.contains rt.addr = false := by simp [Prefix.contains, hq']
        simp [this]
    -- the source tests `seen` before the covering test, `step` after it; neither changes the state
    simp only [hany, step, routeKept]
    cases (rt.addr.is4 || rt.isSingleIP) <;>
      cases (List.any rs (fun q => decide (q.bits < rt.bits) && q.contains rt.addr)) <;>
      by_cases h3 : rt ∈ st.2 <;> simp [h3]
  · intro a ha b hb
    exact compareInt_le_iff _ _ (hwf a ha).2 (hwf b hb).2

/-- non-vacuity: nested routes sharing a base, a duplicate, a /128 and a default route's child -/
example :
    Gen.Trans.Route_current
        (recv_Routes := some [
          (⟨{ val := 0xfd000000000000000000000000000000 }, 64⟩ : Prefix),
          ⟨{ val := 0xfd000000000000000000000000000000 }, 48⟩,
          ⟨{ val := 0x20010db8000000000000000000000000 }, 32⟩,
          ⟨{ val := 0xfd000000000000000000000000000000 }, 48⟩,
          ⟨{ val := 0x20010db8000000000000000000000001 }, 128⟩ ])
        (Route_Prefix := fun (r : Prefix) => r)
        (Prefix_Addr := fun p => p.addr) (Addr_Is4 := IP.is4) (Prefix_IsSingleIP := Prefix.isSingleIP)
        (Prefix_Bits := goBits) (Prefix_Contains := Prefix.contains) (Addr_Compare := compareInt)
      = some [⟨{ val := 0x20010db8000000000000000000000000 }, 32⟩,
              ⟨{ val := 0xfd000000000000000000000000000000 }, 48⟩] := by
  decide +kernel

example : WF [⟨{ val := 0xfd000000000000000000000000000000 }, 64⟩, ⟨{ val := 0x20010db8000000000000000000000000 }, 32⟩] := by
  unfold WF; decide

end Corerad.Props.TransC15
