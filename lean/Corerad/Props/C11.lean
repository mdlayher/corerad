/-
  C11 — connections cleaned up exactly once; IPv6 autoconf always restored.

  Every trace theorem quantifies over every configuration (mode, initial autoconf value,
  cancellation instant) and every script — any number of `DialFunc` calls, each with any
  lookup/dialNDP outcome, any get/set/restore fault in {none, permission, not-exist, other} and
  any task outcome — and is proved by induction on the script (`Lemmas.Dialer.goRun_induct`:
  an invariant of the oracle automaton's state at the loop heads of `Dial`/`init`).  The model
  is Model/Dialer.lean, the automata the check evaluates on the implementation's call log are in
  Spec/C11.lean.

  `dial()`'s treatment of the socket when `setAutoconf` fails is a regenerated fact.  The bracket
  theorem is stated under `Gen.Dialer.dialLeaksConnOnAutoconfError = false`; `gen_no_leak` is
  the obligation that the source is in that state (it fails to check on a leaking tree, and
  `bracket_fails_when_leaking` is the kernel-checked reason why the theorem cannot hold
  there).  The autoconf theorems hold for either composition.

  Residue (not a theorem): what the operating system does behind `system.State` and the raw
  socket; a write is assumed to take effect iff it returns nil.
-/
import Corerad.Lemmas.Dialer

namespace Corerad.Props.C11

open Corerad Corerad.Model.Dialer Corerad.Spec.C11

/-! ### regenerated facts -/

/-- `dial()` closes the socket on the path `restore, err = d.setAutoconf(); err != nil` -/
theorem gen_no_leak : Gen.Dialer.dialLeaksConnOnAutoconfError = false := rfl

/-- the `done` closure leaves the group, closes the socket, then restores autoconf -/
theorem gen_doneCalls : Gen.Dialer.doneCalls = ["conn.LeaveGroup", "conn.Close", "restore"] :=
  rfl

/-! ### bracket -/

/-- When `dial()` closes the socket on its error path: in every run the connection events are
    `(open k · [fnStart k · fnReturn k] · leave k · cleanup k)* · ret` with increasing `k` —
    each connection is cleaned up exactly once, after its task returned, before the next one is
    opened and before `Dial` returns; and the trace ends with the return. -/
theorem bracket_of_no_leak (cfg : Cfg) (s : List Attempt) :
    bracketOk (dialRunWith false cfg s).evs = true := by
  have := goRun_induct false cfg bStep (fun _ st b => InvB st.k b)
    (fun b _ _ => b.ok = true ∧ b.done = true) s
    (fun _ _ _ _ _ h => .of_post (fun _ st b => InvB st.k b) (stepAttempt_bracket h)
      (fun _ _ _ h => h) fun e _ _ h => h.ret e)
    .first { k := 0, now := 0, ac := cfg.ac0 } {} (by simp [InvB])
  simpa [bracketOk, bRun, dialRunWith] using this

/-- The bracket property of `Dialer.Dial` as the source composes `dial()`. -/
theorem bracket (h : Gen.Dialer.dialLeaksConnOnAutoconfError = false) (cfg : Cfg)
    (s : List Attempt) : bracketOk (dialRun cfg s).evs = true := by
  unfold dialRun
  rw [h]
  exact bracket_of_no_leak cfg s

/-- If `dial()` returns without closing the socket when `setAutoconf` fails, the bracket
    property is false: one `DialFunc` call whose autoconf read fails opens connection 0 and the
    run returns without ever cleaning it up. -/
theorem bracket_fails_when_leaking :
    ¬ ∀ (cfg : Cfg) (s : List Attempt), bracketOk (dialRunWith true cfg s).evs = true := by
  intro h
  exact absurd (h {} [{ get := .other }]) (by decide)

/-- …and so is it after a recoverable first failure, in the retry loop, where the leaked socket
    is followed by further dials: a second connection is opened while the first is still open. -/
theorem bracket_fails_when_leaking_retry :
    bracketOk (dialRunWith true {} [{ pre := .linkNotReady }, { set := .other }, {}]).evs = false := by
  decide +kernel

/-! ### autoconf -/

private theorem autoconf_run (leak : Bool) (cfg : Cfg) (s : List Attempt) :
    FinA cfg.ac0 (aRun cfg.ac0 (dialRunWith leak cfg s).evs) (dialRunWith leak cfg s).ac :=
  goRun_induct leak cfg aStep (fun _ st x => InvA cfg.ac0 st.ac none x) (fun x _ ac => FinA cfg.ac0 x ac)
    s
    (fun _ _ _ _ _ h => .of_post (fun nx st x => InvA cfg.ac0 st.ac (mustOf nx) x)
      (stepAttempt_autoconf h) (fun _ _ _ h => h) fun _ _ _ h => h.ret)
    .first { k := 0, now := 0, ac := cfg.ac0 } { init := cfg.ac0, value := cfg.ac0 } (by simp [InvA])

/-- In every run every write of the autoconf setting is either the disabling write — value
    `false`, on a connection that is open and not yet handed to the task, after its previous
    value was read, at most once per connection — or the restoring write that directly follows
    that connection's `cleanup`.  So the setting is forced off only while a connection is held. -/
theorem autoconf_disabled_only_while_held (cfg : Cfg) (s : List Attempt) :
    (aRun cfg.ac0 (dialRun cfg s).evs).okHeld = true :=
  (autoconf_run _ cfg s).1

/-- In every run the event right after `cleanup k` of an advertising connection (one whose
    disabling write was issued and did not make `dial` fail) is a write of exactly the value
    read on connection `k` at its opening, and no other restoring write occurs. -/
theorem restore_value (cfg : Cfg) (s : List Attempt) :
    (aRun cfg.ac0 (dialRun cfg s).evs).okRestore = true :=
  (autoconf_run _ cfg s).2.1

/-- In every run a restoring write that fails with permission-denied or not-exist is
    tolerated (the run goes on as after a successful one); any other failure on connection `k`
    makes `Dial` return the clean-up error of `k` at once; and `Dial` returns a clean-up error
    in no other situation. -/
theorem restore_errors (cfg : Cfg) (s : List Attempt) :
    (aRun cfg.ac0 (dialRun cfg s).evs).okErrors = true :=
  (autoconf_run _ cfg s).2.2.1

/-- In every run the replay of the successful writes from the initial value is the value the
    interface has when `Dial` returns, and if no write of the setting failed — on any exit path:
    nil, a reported error, the time-out, a cancellation — that value is the initial value. -/
theorem restored_on_every_exit (cfg : Cfg) (s : List Attempt) :
    let x := aRun cfg.ac0 (dialRun cfg s).evs
    x.okRestored = true ∧ x.value = (dialRun cfg s).ac ∧
      (x.setFailed = false → (dialRun cfg s).ac = cfg.ac0) := by
  have h := autoconf_run Gen.Dialer.dialLeaksConnOnAutoconfError cfg s
  exact ⟨h.2.2.2.1, h.2.2.2.2.1, h.2.2.2.2.2⟩

/-- The same at the level of the script: if no `SetIPv6Autoconf` call of the script fails
    (reads, dials and the task may fail in any way), the interface has its initial value when
    `Dial` returns. -/
theorem restored_of_no_set_fault (cfg : Cfg) (s : List Attempt)
    (h : ∀ a ∈ s, a.set = .none ∧ a.rst = .none) : (dialRun cfg s).ac = cfg.ac0 := by
  exact goRun_induct _ cfg (fun (_ : Unit) _ => ()) (fun _ st _ => st.ac = cfg.ac0)
    (fun _ _ ac => ac = cfg.ac0) s
    (fun _ _ _ a ha hst =>
      have hw : a.set = .none ∧ a.rst = .none := (List.mem_cons.mp ha).elim (· ▸ ⟨rfl, rfl⟩) (h a)
      .of_post (fun _ st _ => st.ac = cfg.ac0) ((stepAttempt_ac hw).trans hst)
        (fun _ _ _ h => h) fun _ _ _ h => h)
    .first _ () rfl

/-! ### the model meets the oracle -/

/-- On a tree whose `dial()` closes the socket on its error path, the model's trace and final
    autoconf value satisfy, for every configuration and script, the oracle that the check
    evaluates on the implementation's call log. -/
theorem holds_model (hg : Gen.Dialer.dialLeaksConnOnAutoconfError = false) (cfg : Cfg)
    (s : List Attempt) :
    holds cfg.ac0 (dialRun cfg s).evs (dialRun cfg s).ac = true := by
  have hb := bracket hg cfg s
  have h := autoconf_run Gen.Dialer.dialLeaksConnOnAutoconfError cfg s
  obtain ⟨h1, h2, h3, h4, h5, _⟩ := h
  unfold holds autoconfOk
  simp only [hb, Bool.true_and]
  unfold dialRun
  simp [h1, h2, h3, h4, h5]

/-! ### non-vacuity -/

set_option maxRecDepth 20000 in
/-- A concrete run on an advertising interface whose autoconf was on: the first dial fails
    (link not ready); the second opens connection 1 and disables autoconf, the task reports a
    link change, the restore fails with permission-denied (tolerated, so the setting stays
    off); connection 2 is opened at once (the retry loop starts over), reads `false`, the task
    fails fatally, the restore succeeds, `Dial` reports the task's error.  The oracle accepts
    it. -/
example :
    let cfg : Cfg := { adv := true, ac0 := true }
    let s : List Attempt :=
      [{ pre := .linkNotReady }, { task := .linkChange, rst := .permission }, { task := .other }]
    let r := dialRunWith false cfg s
    r.evs =
      [.dial 0, .dialRet 0 .linkNotReady,
       .wait 0, .dial 1, .open 1, .getAutoconf true .none, .setAutoconf false .none, .dialRet 1 .ok,
       .fnStart 1, .fnReturn 1 .linkChange, .leave 1, .cleanup 1, .setAutoconf true .permission,
       .wait 0, .dial 2, .open 2, .getAutoconf false .none, .setAutoconf false .none, .dialRet 2 .ok,
       .fnStart 2, .fnReturn 2 .other, .leave 2, .cleanup 2, .setAutoconf false .none,
       .ret (.task 2)] ∧
    r.ret = .task 2 ∧ r.ac = false ∧
    holds true r.evs r.ac = true := by
  decide +kernel

/-- The oracle rejects: connection 0 never closed before connection 1 is opened; -/
example :
    holds true
      [.dial 0, .open 0, .getAutoconf true .none, .setAutoconf false .none, .dialRet 0 .ok,
       .fnStart 0, .fnReturn 0 .linkChange,
       .dial 1, .open 1, .getAutoconf false .none, .setAutoconf false .none, .dialRet 1 .ok,
       .fnStart 1, .fnReturn 1 .nil, .leave 1, .cleanup 1, .setAutoconf false .none, .ret .nil]
      false = false := by
  decide +kernel

/-- a connection closed twice; -/
example :
    holds true
      [.dial 0, .open 0, .dialRet 0 .ok, .fnStart 0, .fnReturn 0 .nil, .leave 0, .cleanup 0,
       .cleanup 0, .ret .nil] true = false := by
  decide +kernel

/-- the restore writing `true` although `false` was read; -/
example :
    holds false
      [.dial 0, .open 0, .getAutoconf false .none, .setAutoconf false .none, .dialRet 0 .ok,
       .fnStart 0, .fnReturn 0 .nil, .leave 0, .cleanup 0, .setAutoconf true .none, .ret .nil]
      true = false := by
  decide +kernel

/-- a restore failure that is not tolerated, swallowed; -/
example :
    holds true
      [.dial 0, .open 0, .getAutoconf true .none, .setAutoconf false .none, .dialRet 0 .ok,
       .fnStart 0, .fnReturn 0 .nil, .leave 0, .cleanup 0, .setAutoconf true .other, .ret .nil]
      false = false := by
  decide +kernel

/-- a tolerated restore failure reported as a clean-up error; -/
example :
    holds true
      [.dial 0, .open 0, .getAutoconf true .none, .setAutoconf false .none, .dialRet 0 .ok,
       .fnStart 0, .fnReturn 0 .nil, .leave 0, .cleanup 0, .setAutoconf true .notExist,
       .ret (.cleanup 0)]
      false = false := by
  decide +kernel

/-- no restore at all; -/
example :
    holds true
      [.dial 0, .open 0, .getAutoconf true .none, .setAutoconf false .none, .dialRet 0 .ok,
       .fnStart 0, .fnReturn 0 .nil, .leave 0, .cleanup 0, .ret .nil]
      false = false := by
  decide +kernel

/-- autoconf disabled while the task already runs. -/
example :
    holds true
      [.dial 0, .open 0, .getAutoconf true .none, .dialRet 0 .ok,
       .fnStart 0, .setAutoconf false .none, .fnReturn 0 .nil, .leave 0, .cleanup 0,
       .setAutoconf true .none, .ret .nil]
      true = false := by
  decide +kernel

/-- On a Monitor interface the setting is never read or written. -/
example :
    (dialRunWith false { adv := false } [{ task := .syscall }, { pre := .syscall }, {}]).evs =
      [.dial 0, .open 0, .dialRet 0 .ok, .fnStart 0, .fnReturn 0 .syscall, .leave 0, .cleanup 0,
       .wait 0, .dial 1, .dialRet 1 .syscall,
       .wait 250000000, .dial 2, .open 2, .dialRet 2 .ok, .fnStart 2, .fnReturn 2 .nil, .leave 2,
       .cleanup 2, .ret .nil] := by
  decide +kernel

end Corerad.Props.C11
