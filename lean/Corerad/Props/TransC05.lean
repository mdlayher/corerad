/-
  TransC05 — the Go → Lean translation of `multicastDelay` (internal/corerad/advertise.go),
  regenerated into `Corerad.Gen.Trans` from the current source text on every run, equals the
  hand-written model `Corerad.Model.multicastDelay` for ALL inputs.

  Only equivalence theorems live here.  A source change that alters the behaviour of the Go
  function changes the translated definition and one of these proofs stops checking.  The proofs
  are case splits closed by `simp_all`/`omega`, so they survive behaviour-preserving rewrites of
  the source (renamed locals, reordered independent statements, early return ↔ if/else).
-/
import Corerad.Gen.Trans
import Corerad.Model.Delay
import Corerad.Lemmas.Translated

namespace Corerad.Props.TransC05

/-- `multicastDelay(r, i, min, max)` as translated from the source = the model, for every index,
    every interval pair and every PRNG draw. -/
theorem multicastDelay_equiv (i : Nat) (min max : Dur) (draw : Int) :
    Gen.Trans.multicastDelay (i := i) (min := min) (max := max) (draw0 := draw)
      = Model.multicastDelay draw i min max := by
  simp only [Gen.Trans.multicastDelay, Model.multicastDelay, Gen.Advertise.maxInitialAdv,
    Gen.Advertise.maxInitialAdvInterval, ns, Int.mul_one]
  split_leaves

/-- The argument handed to `r.Int63n` is `max - min` (the model's draw ranges over `[0, max-min)`). -/
theorem multicastDelay_drawBound_equiv (i : Int) (min max : Dur) :
    Gen.Trans.multicastDelay_drawBound0 (i := i) (min := min) (max := max) = max - min := by
  simp only [Gen.Trans.multicastDelay_drawBound0]

/-- non-trivial instance: 4th wait (index 3 is past the initial phase), 200 s..600 s, draw 123.4 s -/
example : Gen.Trans.multicastDelay (i := 3) (min := 200 * second) (max := 600 * second) (draw0 := 123400000000)
    = 323 * second ∧ Model.multicastDelay 123400000000 3 (200 * second) (600 * second) = 323 * second := by
  decide

/-- … and the same draw during the initial phase is capped at 16 s on both sides -/
example : Gen.Trans.multicastDelay (i := 2) (min := 200 * second) (max := 600 * second) (draw0 := 123400000000)
    = 16 * second ∧ Model.multicastDelay 123400000000 2 (200 * second) (600 * second) = 16 * second := by
  decide

end Corerad.Props.TransC05
