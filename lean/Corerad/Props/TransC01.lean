/-
  TransC01 — the Go → Lean translation of the lifetime computed by `plugin.NewPREF64`
  (internal/plugin/plugin.go) — the constructor's body up to its final `return`, synthesised as a
  pure function of `maxInterval` by `tools/extract/translate_synth.go` (which also checks that the
  returned option carries exactly that lifetime and the prefix parameter unchanged) and regenerated
  into `Corerad.Gen.Trans.NewPREF64_lifetime` from the current source text on every run — equals the
  model's `pref64Lifetime`, the value the C01 theorems put into the PREF64 option: 3 × MaxRtrAdvInterval
  rounded up to a multiple of 8 s, capped at 8191 × 8 s (RFC 8781 §4.1), for ALL intervals.

  Only equivalence theorems live here.
-/
import Corerad.Gen.Trans
import Corerad.Model.Config
import Corerad.Lemmas.Dur
import Corerad.Lemmas.Translated

namespace Corerad.Props.TransC01

open Corerad Corerad.Model

/-- the translated computation = the model's, on the duration itself (the repair of F-20) -/
theorem NewPREF64_lifetime_equiv_dur (maxInterval : Dur) :
    Gen.Trans.NewPREF64_lifetime (maxInterval := maxInterval) = pref64LifetimeDur maxInterval := by
  unfold Gen.Trans.NewPREF64_lifetime pref64LifetimeDur
  by_cases h : 3 * maxInterval < 65528000000000
  · simp only [Gen.Plugin.maxPref64Lifetime, h, if_true] <;> split_leaves
  · simp only [Gen.Plugin.maxPref64Lifetime, h, if_false] <;> split_leaves

/-- … and therefore the lifetime `Model.parsePref64` / `Model.routerAdvertisement` use -/
theorem NewPREF64_lifetime_equiv (maxInterval : Dur) :
    Gen.Trans.NewPREF64_lifetime (maxInterval := maxInterval) = pref64Lifetime maxInterval := by
  rw [NewPREF64_lifetime_equiv_dur]
  simp [pref64Lifetime, Gen.Plugin.pref64ScalesDuration]

/-- C01's clause on the model's computation: a multiple of 8 s, at least 3 × max and less than 8 s
    above it (below the cap; the configuration accepts 4 s … 1800 s, so the cap is never reached) -/
theorem pref64LifetimeDur_spec (m : Dur) (h0 : 0 ≤ m) (h : 3 * m < 65528000000000) :
    pref64LifetimeDur m % 8000000000 = 0 ∧ 3 * m ≤ pref64LifetimeDur m ∧ pref64LifetimeDur m < 3 * m + 8000000000 := by
  unfold pref64LifetimeDur
  simp only [Gen.Plugin.maxPref64Lifetime, h, if_true]
  rw [ceilMod_eq sec8_pos (by omega)]
  exact ceil_spec sec8_pos (3 * m)

/-- … and on the translated definition itself -/
theorem NewPREF64_lifetime_spec (m : Dur) (h0 : 0 ≤ m) (h : 3 * m < 65528000000000) :
    Gen.Trans.NewPREF64_lifetime (maxInterval := m) % 8000000000 = 0 ∧
    3 * m ≤ Gen.Trans.NewPREF64_lifetime (maxInterval := m) ∧
    Gen.Trans.NewPREF64_lifetime (maxInterval := m) < 3 * m + 8000000000 := by
  rw [NewPREF64_lifetime_equiv_dur]; exact pref64LifetimeDur_spec m h0 h

/-- non-trivial instances: 5.5 s → 24 s (F-20: the whole-second computation gave 16 s), 8.1 s → 32 s
    (the seeded change C01j gave 24 s), 600 s → 1800 s, and the cap -/
example : Gen.Trans.NewPREF64_lifetime (5500 * ms) = 24 * second := by decide
example : Gen.Trans.NewPREF64_lifetime (8100 * ms) = 32 * second := by decide
example : Gen.Trans.NewPREF64_lifetime (600 * second) = 1800 * second := by decide
example : Gen.Trans.NewPREF64_lifetime (30000 * second) = 8191 * 8 * second := by decide

/-! ### The Apply methods of the plugins with a wildcard form (tools/extract/translate_apply.go)

`(*Prefix).Apply` / `apply`, `(*Route).Apply` / `apply`, `(*RDNSS).Apply` / `apply` re-translated from the
current source text; composed — the translated `Apply` given the translated `apply`, the lifetimes and
the wildcard expansion — they are the model's `Plugin.apply` for a prepared plugin (its source of system
state and its clock installed), for every stanza and every system state. -/

theorem Prefix_Apply_equiv (sys : SysState) (auto : Bool) (p : Prefix) (onLink autonomous : Bool)
    (valid pref : Dur) (dep : Bool) :
    Gen.Trans.Prefix_Apply (Auto := auto) (Addrs_nil := false) (Deprecated := dep) (TimeNow_nil := false) (Prefix := p)
        (current := sys.addrs.map (currentPrefixes p.bits))
        (apply := Gen.Trans.Prefix_apply onLink autonomous (prefixLifetimes dep sys.epoch valid pref sys.now))
      = Plugin.apply sys (.pfx auto p onLink autonomous valid pref dep) := by
  unfold Gen.Trans.Prefix_Apply Gen.Trans.Prefix_apply Plugin.apply
  cases auto <;> cases sys.addrs <;> simp

theorem Route_Apply_equiv (sys : SysState) (auto : Bool) (p : Prefix) (preference : Nat) (lifetime : Dur) (dep : Bool) :
    Gen.Trans.Route_Apply (Auto := auto) (Routes_nil := false) (Deprecated := dep) (TimeNow_nil := false) (Prefix := p)
        (current := sys.routes.map currentRoutes)
        (apply := Gen.Trans.Route_apply preference (routeLifetime dep sys.epoch lifetime sys.now))
      = Plugin.apply sys (.route auto p preference lifetime dep) := by
  unfold Gen.Trans.Route_Apply Gen.Trans.Route_apply Plugin.apply
  cases auto <;> cases sys.routes <;> simp

theorem RDNSS_Apply_equiv (sys : SysState) (auto : Bool) (lifetime : Dur) (servers : List IP) :
    Gen.Trans.RDNSS_Apply (Auto := auto) (Addrs_nil := false) (Servers := servers)
        (current := sys.addrs.bind currentRDNSS)
        (apply := Gen.Trans.RDNSS_apply lifetime)
      = Plugin.apply sys (.rdnss auto lifetime servers) := by
  unfold Gen.Trans.RDNSS_Apply Gen.Trans.RDNSS_apply Plugin.apply applyRDNSS
  cases auto
  · simp
  · cases sys.addrs with
    | none => simp
    | some as => cases h2 : currentRDNSS as <;> simp [h2]

/-- a plugin that was never prepared (its source of system state or its clock is missing) fails: the
    guard of the translated `Apply` (F-12: a scrape before the first Prepare) -/
theorem Apply_not_prepared (p : Prefix) (cur : Option (List Prefix)) (ap : List Prefix → List Opt) :
    Gen.Trans.Prefix_Apply true true false false p cur ap = none ∧
    Gen.Trans.Prefix_Apply false false true true p cur ap = none ∧
    Gen.Trans.Route_Apply true true false false p cur ap = none ∧
    Gen.Trans.Route_Apply false false true true p cur ap = none := by
  simp [Gen.Trans.Prefix_Apply, Gen.Trans.Route_Apply]

end Corerad.Props.TransC01
