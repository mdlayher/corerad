/-
  C05 — unsolicited multicast RAs recur forever; waits within [Min,Max]RtrAdvInterval.

  Property theorems.  Statements use the RFC 4861 literals; the model uses the constants
  regenerated from /repo (`Gen.Advertise`), so a changed constant breaks `gen_constants` and
  everything that depends on it.  "To one-second granularity" is read as the `Round`ed end
  points (DESIGN §7).
-/
import Corerad.Model.Delay
import Corerad.Lemmas.Dur

namespace Corerad.Props.C05

open Corerad.Model

/-- The constants of RFC 4861 §10 as found in the source on this run. -/
theorem gen_constants :
    Gen.Advertise.maxInitialAdv = 3 ∧ Gen.Advertise.maxInitialAdvInterval = 16 * second := by
  decide

/-- The multicast loop waits on a fresh `time.After` timer for every wait (regenerated structural
    fact): a timer kept across waits or incarnations could deliver a stale tick, which the
    virtual-time scenarios (asynctimerchan=0, required by testing/synctest) cannot exhibit. -/
theorem gen_multicastWaitsOnFreshTimer : Gen.Advertise.multicastWaitsOnFreshTimer = true := by decide

def chosen (draw : Int) (min max : Dur) : Dur := if min = max then max else min + draw

theorem chosen_ge (draw : Int) (min max : Dur) (hle : min ≤ max) (hd0 : 0 ≤ draw) :
    min ≤ chosen draw min max := by
  unfold chosen; split <;> omega

theorem chosen_le (draw : Int) (min max : Dur) (hd1 : min = max ∨ draw < max - min) :
    chosen draw min max ≤ max := by
  unfold chosen; split <;> omega

/-- With `roundDur_mono` every bound below follows by comparing rounded instants. -/
theorem delay_cases (draw : Int) (i : Nat) (min max : Dur) :
    multicastDelay draw i min max = roundDur (chosen draw min max) second ∧
        (i < 3 → roundDur (chosen draw min max) second ≤ 16 * second) ∨
      multicastDelay draw i min max = 16 * second ∧ i < 3 ∧
        16 * second < roundDur (chosen draw min max) second := by
  simp only [multicastDelay, chosen, gen_constants.1, gen_constants.2, apply_ite (roundDur · second)]
  generalize (if min = max then roundDur max second else roundDur (min + draw) second) = r
  split
  · next h => exact Or.inr ⟨rfl, by omega, h.2⟩
  · next h => exact Or.inl ⟨rfl, fun hi => by omega⟩

/-- Every wait is a whole number of seconds. -/
theorem delay_whole_second (draw : Int) (i : Nat) (min max : Dur)
    (hmin : 0 < min) (hle : min ≤ max) (hd0 : 0 ≤ draw) :
    multicastDelay draw i min max % second = 0 := by
  have hc := chosen_ge draw min max hle hd0
  rcases delay_cases draw i min max with ⟨h, -⟩ | ⟨h, -⟩ <;> rw [h]
  · exact (roundDur_spec second_pos (by omega)).1
  · exact Int.mul_emod_left ..

/-- Upper bound: never above `MaxRtrAdvInterval` (rounded to a second). -/
theorem delay_upper (draw : Int) (i : Nat) (min max : Dur)
    (hmin : 0 < min) (hle : min ≤ max) (hd0 : 0 ≤ draw) (hd1 : min = max ∨ draw < max - min) :
    multicastDelay draw i min max ≤ roundDur max second := by
  have hc := chosen_ge draw min max hle hd0
  have hr := roundDur_mono second_pos (by omega) (chosen_le draw min max hd1)
  rcases delay_cases draw i min max with ⟨h, -⟩ | ⟨h, -, h16⟩ <;> omega

/-- Lower bound after the initial advertisements: never below `MinRtrAdvInterval` (rounded). -/
theorem delay_lower (draw : Int) (i : Nat) (min max : Dur)
    (hmin : 0 < min) (hle : min ≤ max) (hd0 : 0 ≤ draw) (hi : 3 ≤ i) :
    roundDur min second ≤ multicastDelay draw i min max := by
  have hr := roundDur_mono second_pos (Int.le_of_lt hmin) (chosen_ge draw min max hle hd0)
  rcases delay_cases draw i min max with ⟨h, -⟩ | ⟨-, h3, -⟩ <;> omega

/-- The first three waits are capped at 16 s, and the cap is the only way to fall below Min. -/
theorem delay_initial (draw : Int) (i : Nat) (min max : Dur)
    (hmin : 0 < min) (hle : min ≤ max) (hd0 : 0 ≤ draw) (hi : i < 3) :
    multicastDelay draw i min max ≤ 16 * second ∧
    (multicastDelay draw i min max < roundDur min second →
      multicastDelay draw i min max = 16 * second) := by
  have hr := roundDur_mono second_pos (Int.le_of_lt hmin) (chosen_ge draw min max hle hd0)
  rcases delay_cases draw i min max with ⟨h, h16⟩ | ⟨h, -, -⟩
  · have := h16 hi; omega
  · omega

/-- The wait is at least a second whenever `min ≥ 0.5 s` (an accepted configuration has
    `min ≥ 3 s`, see `C02`): choosing a wait never yields a non-positive wait. -/
theorem delay_pos (draw : Int) (i : Nat) (min max : Dur)
    (hmin : 500 * ms ≤ min) (hle : min ≤ max) (hd0 : 0 ≤ draw) :
    second ≤ multicastDelay draw i min max := by
  have hr : roundDur (500 * ms) second ≤ roundDur (chosen draw min max) second :=
    roundDur_mono second_pos (by decide) (Int.le_trans hmin (chosen_ge draw min max hle hd0))
  have h1 : roundDur (500 * ms) second = second := by decide
  have := second_pos
  rcases delay_cases draw i min max with ⟨h, -⟩ | ⟨h, -, -⟩ <;> omega

/-- The multicast loop diverges in time: the `n`-th request is issued no earlier than `n`
    seconds after the first, whatever the draws — it recurs forever and never spins. -/
theorem loop_diverges (draws : Nat → Int) (min max : Dur)
    (hmin : 500 * ms ≤ min) (hle : min ≤ max) (hd : ∀ n, 0 ≤ draws n) (n : Nat) :
    (n : Int) * second ≤ requestTime draws min max n := by
  induction n with
  | zero => simp [requestTime]
  | succ k ih =>
    have := delay_pos (draws k) k min max hmin hle (hd k)
    rw [requestTime, Int.natCast_succ, Int.add_mul, Int.one_mul]
    omega

/-- Non-vacuity: the default configuration (min 198 s, max 600 s) with the extreme draw
    `range − 1` meets the hypotheses of every theorem above and attains the upper bound. -/
example : (0 : Int) < 198 * second ∧ 198 * second ≤ 600 * second ∧
    (0 : Int) ≤ 402 * second - 1 ∧ (402 * second - 1 < 600 * second - 198 * second) ∧
    multicastDelay (402 * second - 1) 3 (198 * second) (600 * second) = 600 * second := by
  decide

end Corerad.Props.C05
