/-
  C08 — on termination exactly one zero-lifetime RA is sent, last; on reload none.
  Theorems over every trace of the shutdown transition system: any number of transmissions
  pending or in flight, any latencies, either decision.
-/
import Corerad.Lemmas.Shutdown
import Corerad.Gen.Server

namespace Corerad.Props.C08

open Corerad Corerad.Model

/-- the scheduler's cancel branch waits for the transmissions its workers have in flight, and
    `shutdown` consults `terminate()` before sending (both extracted from the source; this
    lemma fails to build on a tree where the scheduler does not wait) -/
theorem gen_facts :
    Gen.Advertise.shutdownAwaitsInflight = true ∧ Gen.Advertise.shutdownChecksTerminate = true ∧
    Gen.Advertise.shutdownCalls_send = true := by decide

/-- The decision "terminate or reload" the advertiser acts on is the server's terminator, and the
    signal task sets it from the signal before it cancels the tasks' context (regenerated from
    `signalTask.Run`; the Serve scenarios of C20 also run under this property): a terminating
    advertiser that finds its context cancelled already sees `terminate() = true`. -/
theorem gen_terminate_visible_before_cancel :
    Gen.Server.signalSetBeforeCancel = true ∧ Gen.Server.termIsIsTerminal = true := by decide

/-- The send gate's protocol, as it stands in the source (statement lists, regenerated): `enter`
    refuses once the gate is closed and otherwise registers the transmission under the lock;
    `close` marks the gate closed under the lock and then waits for the registered transmissions;
    `leave` deregisters.  This is what the transition system's "no transmission begins after the
    scheduler has stopped, and those in flight are awaited" stands on. -/
theorem gen_send_gate :
    Gen.Advertise.gateEnterStmts =
      ["g.mu.Lock()", "defer g.mu.Unlock()", "if g.closed { return false }", "g.wg.Add(1)", "return true"] ∧
    Gen.Advertise.gateCloseStmts = ["g.mu.Lock()", "g.closed = true", "g.mu.Unlock()", "g.wg.Wait()"] ∧
    Gen.Advertise.gateLeaveStmts = ["g.wg.Done()"] := ⟨rfl, rfl, rfl⟩

/-- …and there is no other way out of the scheduler's loop: every `return` inside it is preceded
    by that wait -/
theorem gen_all_exits_await : Gen.Advertise.scheduleAllExitsAwait = true := by decide

/-- invariant of the awaiting system -/
structure Inv (s : ShState) : Prop where
  final_le : s.final ≤ 2
  final_idle : s.final ≠ 0 → s.inflight = 0 ∧ s.cancelled = true ∧ s.terminate = true
  ret_idle : s.returned = true → s.inflight = 0 ∧ s.cancelled = true ∧ s.final = (if s.terminate then 2 else 0)

theorem inv_init (t : Bool) : Inv { terminate := t } :=
  ⟨Nat.zero_le 2, fun h => absurd rfl h, fun h => Bool.noConfusion h⟩

theorem inv_step (s s' : ShState) (e : ShEv) (h : Inv s) (hs : shStep true s e = some s') : Inv s' := by
  obtain ⟨h1, h2, h3⟩ := h
  cases e with
  | writeBegin =>
    obtain ⟨⟨hf, hr⟩, rfl⟩ := (shStep_writeBegin true s s').mp hs
    exact ⟨h1, fun hf' => absurd hf hf', fun hr' => nomatch hr.symm.trans hr'⟩
  | writeEnd =>
    -- inflight > 0, so final = 0 and not returned
    obtain ⟨hpos, rfl⟩ := (shStep_writeEnd true s s').mp hs
    refine ⟨h1, fun hf' => ?_, fun hr' => ?_⟩
    · have := (h2 hf').1; omega
    · have := (h3 hr').1; omega
  | cancel =>
    obtain ⟨⟨_, hr⟩, rfl⟩ := (shStep_cancel true s s').mp hs
    exact ⟨h1, fun hf => ⟨(h2 hf).1, rfl, (h2 hf).2.2⟩, fun hr' => nomatch hr.symm.trans hr'⟩
  | finalBegin =>
    obtain ⟨⟨hcan, hterm, _, hr, hidle⟩, rfl⟩ := (shStep_finalBegin true s s').mp hs
    exact ⟨(by decide : 1 ≤ 2), fun _ => ⟨hidle rfl, hcan, hterm⟩, fun hr' => nomatch hr.symm.trans hr'⟩
  | finalEnd =>
    obtain ⟨hf1, rfl⟩ := (shStep_finalEnd true s s').mp hs
    have hne : s.final ≠ 0 := by omega
    refine ⟨Nat.le_refl 2, fun _ => h2 hne, fun hr' => ?_⟩
    -- had `Run` returned, `final` would be 2 already (terminating) and not 1
    have c := (h3 hr').2.2
    rw [(h2 hne).2.2, hf1] at c
    exact absurd c (by decide)
  | runReturn =>
    obtain ⟨⟨hcan, _, hidle, hfin⟩, rfl⟩ := (shStep_runReturn true s s').mp hs
    exact ⟨h1, h2, fun _ => ⟨hidle rfl, hcan, hfin⟩⟩

/-- once the final RA has begun, only its completion and `Run` returning are enabled, and the
    final RA stays begun -/
theorem step_after_final (s s1 : ShState) (e : ShEv) (h : Inv s) (hf : s.final ≠ 0)
    (hs : shStep true s e = some s1) :
    (e == ShEv.finalEnd || e == ShEv.runReturn) = true ∧ s1.final ≠ 0 := by
  obtain ⟨hidle, hcan, _⟩ := h.final_idle hf
  cases e with
  | writeBegin | finalBegin => simp [shStep, hf] at hs
  | writeEnd =>
    obtain ⟨hpos, _⟩ := (shStep_writeEnd true s s1).mp hs
    omega
  | cancel => simp [shStep, hcan] at hs
  | finalEnd =>
    obtain ⟨_, rfl⟩ := (shStep_finalEnd true s s1).mp hs
    exact ⟨by decide, (by decide : (2 : Nat) ≠ 0)⟩
  | runReturn =>
    obtain ⟨_, rfl⟩ := (shStep_runReturn true s s1).mp hs
    exact ⟨by decide, hf⟩

theorem after_final (s : ShState) (h : Inv s) (hf : s.final ≠ 0) :
    ∀ (tr : List ShEv) (s' : ShState), shRun true s tr = some s' →
      tr.all (fun e => e == .finalEnd || e == .runReturn) = true
  | [], _, _ => rfl
  | e :: es, s', hr => by
    obtain ⟨s1, hs1, hr1⟩ := (shRun_isRun true).cons_eq_some.mp hr
    have hinv1 := inv_step s s1 e h hs1
    have he := step_after_final s s1 e h hf hs1
    rw [List.all_cons, Bool.and_eq_true]
    exact ⟨he.1, after_final s1 hinv1 he.2 es s' hr1⟩

/-- **The final RA is the last packet**: in every trace, nothing but the final RA's own
    completion and `Run` returning follows the start of the final RA. -/
theorem final_is_last :
    ∀ (tr : List ShEv) (s s' : ShState), Inv s → s.final = 0 → shRun true s tr = some s' →
      Spec.C08.finalIsLast tr = true
  | [], _, _, _, _, _ => rfl
  | e :: es, s, s', h, hf0, hr => by
    obtain ⟨s1, hs1, hr1⟩ := (shRun_isRun true).cons_eq_some.mp hr
    have hinv1 := inv_step s s1 e h hs1
    obtain ⟨-, finalBegin, -, -, -⟩ := shStep_effect true s s1 e hs1
    rcases finalBegin with ⟨hsame, he⟩ | ⟨rfl, _, h1⟩
    · have ih := final_is_last es s1 s' hinv1 (by simpa [hf0] using hsame) hr1
      cases e with
      | finalBegin => exact absurd rfl he
      | writeBegin | writeEnd | cancel | finalEnd | runReturn => exact ih
    · exact after_final s1 hinv1 (by simpa using h1) es s' hr1

theorem no_step_after_return (s s1 : ShState) (e : ShEv) (h : Inv s) (hret : s.returned = true)
    (hs : shStep true s e = some s1) : False := by
  obtain ⟨hidle, _, hfin⟩ := h.ret_idle hret
  cases e with
  | writeBegin | cancel | finalBegin | runReturn => simp [shStep, hret] at hs
  | writeEnd =>
    obtain ⟨hpos, _⟩ := (shStep_writeEnd true s s1).mp hs
    omega
  | finalEnd =>
    obtain ⟨hf1, _⟩ := (shStep_finalEnd true s s1).mp hs
    rw [hf1] at hfin
    cases ht : s.terminate <;> rw [ht] at hfin <;> exact absurd hfin (by decide)

/-- **Nothing is transmitted after `Run` has returned**: `runReturn` ends every trace. -/
theorem nothing_after_return :
    ∀ (tr : List ShEv) (s s' : ShState), Inv s → s.returned = false → shRun true s tr = some s' →
      Spec.C08.nothingAfterReturn tr = true
  | [], _, _, _, _, _ => rfl
  | e :: es, s, s', h, hnr, hr => by
    obtain ⟨s1, hs1, hr1⟩ := (shRun_isRun true).cons_eq_some.mp hr
    have hinv1 := inv_step s s1 e h hs1
    obtain ⟨-, -, -, runReturn, -⟩ := shStep_effect true s s1 e hs1
    rcases runReturn with ⟨hsame, he⟩ | ⟨rfl, _, hret⟩
    · have ih := nothing_after_return es s1 s' hinv1 (hsame.trans hnr) hr1
      cases e with
      | runReturn => exact absurd rfl he
      | writeBegin | writeEnd | cancel | finalBegin | finalEnd => exact ih
    · cases es with
      | nil => rfl
      | cons e2 es2 =>
        obtain ⟨s2, hs2, _⟩ := (shRun_isRun true).cons_eq_some.mp hr1
        exact (no_step_after_return s1 s2 e2 hinv1 hret hs2).elim

/-- **Exactly one final RA iff terminating**: in any complete run (one that ends with `Run`
    returning) the zero-lifetime RA was started and completed exactly once when terminating,
    and never when reloading. -/
theorem final_exactly_once_iff_terminate (t : Bool) (tr : List ShEv) (s' : ShState)
    (hr : shRun true { terminate := t } tr = some s') (hret : s'.returned = true) :
    Spec.C08.count .finalBegin tr = (if t then 1 else 0) ∧
    Spec.C08.count .finalEnd tr = (if t then 1 else 0) := by
  obtain ⟨_, _, hfin⟩ := ((shRun_isRun true).preserved inv_step (inv_init t) hr).ret_idle hret
  rw [shRun_terminate true tr _ s' hr] at hfin
  obtain ⟨finalBegin, finalEnd, -, -⟩ := shRun_counts true tr _ s' hr
  cases t <;> simpa [hfin] using And.intro finalBegin finalEnd

/-- The whole oracle holds of every complete trace of the system. -/
theorem holds_model (t : Bool) (tr : List ShEv) (s' : ShState)
    (hr : shRun true { terminate := t } tr = some s') (hret : s'.returned = true)
    (hone : Spec.C08.count .runReturn tr = 1) :
    Spec.C08.holds t tr = true := by
  obtain ⟨h1, h2⟩ := final_exactly_once_iff_terminate t tr s' hr hret
  unfold Spec.C08.holds
  simp only [Bool.and_eq_true, beq_iff_eq]
  refine ⟨⟨⟨⟨hone, h1⟩, by rw [h2, h1]⟩, ?_⟩, ?_⟩
  · exact final_is_last tr _ s' (inv_init t) rfl hr
  · exact nothing_after_return tr _ s' (inv_init t) rfl hr

/-- **Transmissions stop before the final RA and before `Run` returns**: in any accepted trace,
    every scheduled transmission begins before `Run` returns and before the final RA begins. -/
theorem writes_stop_after_cancel_returns (t : Bool) (tr pre post : List ShEv)
    (htr : tr = pre ++ [ShEv.writeBegin] ++ post) (hacc : shAccepts true t tr = true) :
    ShEv.finalBegin ∉ pre ∧ ShEv.runReturn ∉ pre := by
  subst htr
  obtain ⟨s', hr⟩ := (shAccepts_iff true t _).mp hacc
  rw [List.append_assoc] at hr
  obtain ⟨s1, s2, hpre, hstep, _⟩ := (shRun_isRun true).split.mp hr
  obtain ⟨⟨hf, hnr⟩, _⟩ := (shStep_writeBegin true s1 s2).mp hstep
  obtain ⟨finalBegin, -, runReturn, -⟩ := shRun_counts true pre _ s1 hpre
  exact ⟨count_eq_zero_iff.mp (by simpa [hf] using finalBegin),
    count_eq_zero_iff.mp (by simpa [hnr] using runReturn)⟩

/-- **`Run` returns only after cancellation**: in any accepted trace, `runReturn` is preceded by
    `cancel`. -/
theorem return_requires_cancel (t : Bool) (tr pre post : List ShEv)
    (htr : tr = pre ++ [ShEv.runReturn] ++ post) (hacc : shAccepts true t tr = true) :
    ShEv.cancel ∈ pre := by
  subst htr
  obtain ⟨s', hr⟩ := (shAccepts_iff true t _).mp hacc
  rw [List.append_assoc] at hr
  obtain ⟨s1, s2, hpre, hstep, _⟩ := (shRun_isRun true).split.mp hr
  obtain ⟨⟨hcan, _⟩, _⟩ := (shStep_runReturn true s1 s2).mp hstep
  obtain ⟨-, -, -, cancel⟩ := shRun_counts true pre _ s1 hpre
  -- `cancelled` went up along `pre`, so `cancel` does not occur zero times in it
  refine Decidable.byContradiction fun hn => ?_
  simp [count_eq_zero_iff.mpr hn, hcan] at cancel

/-- The unrepaired ordering (F-5) — the scheduler returning without awaiting in-flight
    transmissions — admits a trace in which a transmission completes after the final RA and after
    `Run` has returned; the awaiting system rejects it. -/
theorem unrepaired_witness :
    let tr := [ShEv.writeBegin, .cancel, .finalBegin, .finalEnd, .runReturn, .writeEnd]
    shAccepts false true tr = true ∧ Spec.C08.holds true tr = false ∧ shAccepts true true tr = false := by
  decide

/-- Non-vacuity: a terminating run with one transmission in flight at the stop instant. -/
example :
    let tr := [ShEv.writeBegin, .writeEnd, .writeBegin, .cancel, .writeEnd, .finalBegin, .finalEnd, .runReturn]
    shAccepts true true tr = true ∧ Spec.C08.holds true tr = true ∧
    shAccepts true false [ShEv.writeBegin, .cancel, .writeEnd, .runReturn] = true ∧
    Spec.C08.holds false [ShEv.writeBegin, .cancel, .writeEnd, .runReturn] = true := by
  decide

end Corerad.Props.C08
