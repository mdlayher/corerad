/-
  C14 — the `::` RDNSS wildcard picks the best eligible interface address, deterministically.
  All theorems quantify over every address list (any length, order, multiplicity) whose
  entries are valid prefixes with 128-bit values.
-/
import Corerad.Spec.C14
import Corerad.Lemmas.ListUtil
import Corerad.Lemmas.Addr

namespace Corerad.Props.C14

open Corerad Corerad.Model

/-- The ranking predicates appear in the source in the documented order
    (unique-local, global unicast, link-local). -/
theorem gen_ranking : Gen.Plugin.rdnssRankingCodes = [0, 1, 2] := rfl

/-- well-formed system address: a valid prefix whose address value fits 128 bits -/
def WFa (a : SysIP) : Prop := a.addr.isValid = true ∧ a.addr.addr.val < 2^128
def WF (as : List SysIP) : Prop := ∀ a ∈ as, WFa a

theorem eligible_eq (a : SysIP) : rdnssEligible a = Spec.C14.eligible a := by
  simp only [rdnssEligible, Spec.C14.eligible, Bool.not_or]

theorem rankLoop_eq (best cur : SysIP) (fs : List Nat) :
    rankLoop best cur fs =
      if (compare (fs.findIdx (rankPred · cur.addr.addr)) (fs.findIdx (rankPred · best.addr.addr))).then
          (IP.compare cur.addr.addr best.addr.addr) = .lt
      then cur else best := by
  induction fs with
  | nil => simp [rankLoop, IP.less]
  | cons f fs ih =>
    simp only [rankLoop, List.findIdx_cons, ih, IP.less]
    cases rankPred f cur.addr.addr <;> cases rankPred f best.addr.addr <;>
      simp [Nat.compare_eq_ite_lt]

theorem addrClass_eq (ip : IP) :
    Spec.C14.addrClass ip = Gen.Plugin.rdnssRankingCodes.findIdx (rankPred · ip) := by
  rw [gen_ranking]
  simp only [Spec.C14.addrClass, List.findIdx_cons, rankPred, List.findIdx_nil]
  cases ip.isPrivate <;> cases ip.isGlobalUnicast <;> cases ip.isLinkLocalUnicast <;> rfl

theorem addrClass_le (ip : IP) : Spec.C14.addrClass ip ≤ 3 := by
  rw [addrClass_eq, gen_ranking]; exact List.findIdx_le_length

theorem compare_rank {a b : SysIP} (ha : a.addr.addr.val < 2^128) (hb : b.addr.addr.val < 2^128) :
    compare (Spec.C14.rank a) (Spec.C14.rank b) =
      (compare (if isStable a then 0 else 1) (if isStable b then 0 else 1)).then
        ((compare (Spec.C14.addrClass a.addr.addr) (Spec.C14.addrClass b.addr.addr)).then
          (compare (addrKey a.addr.addr) (addrKey b.addr.addr))) := by
  have hka := addrKey_lt ha
  have hkb := addrKey_lt hb
  have hca := addrClass_le a.addr.addr
  have hcb := addrClass_le b.addr.addr
  unfold Spec.C14.rank
  rw [Nat.add_assoc, Nat.add_assoc, compare_lex (B := 2^140) (by omega) (by omega), compare_lex hka hkb]

/-- This form needs no bound on the address values. -/
theorem better_lex (best cur : SysIP) (hb : best.addr.isValid = true) :
    betterRDNSS best cur =
      if (compare (if isStable cur then 0 else 1) (if isStable best then 0 else 1)).then
          ((compare (Spec.C14.addrClass cur.addr.addr) (Spec.C14.addrClass best.addr.addr)).then
            (IP.compare cur.addr.addr best.addr.addr)) = .lt
      then cur else best := by
  unfold betterRDNSS
  have h01 : compare 0 1 = Ordering.lt := rfl
  have h10 : compare 1 0 = Ordering.gt := rfl
  simp only [hb, Bool.not_true, Bool.false_eq_true, if_false, rankLoop_eq, ← addrClass_eq]
  cases isStable cur <;> cases isStable best <;> simp [h01, h10]

/-- `betterRDNSS` returns the argument with the smaller ranking key (ties keep `best`): the
    ranking is a total order — stability first, then unique-local < global < link-local <
    other, then the numerically lowest address. -/
theorem better_is_min (best cur : SysIP) (hb : WFa best) (hc : WFa cur) :
    betterRDNSS best cur = if Spec.C14.rank cur < Spec.C14.rank best then cur else best := by
  simp only [better_lex best cur hb.1, ← Nat.compare_eq_lt, compare_rank hc.2 hb.2,
    compare_eq_compare_addrKey hc.2 hb.2]

theorem addr_eq_of_rank_eq (a b : SysIP) (ha : WFa a) (hb : WFa b)
    (hae : Spec.C14.eligible a = true) (hbe : Spec.C14.eligible b = true)
    (h : Spec.C14.rank a = Spec.C14.rank b) : a.addr.addr = b.addr.addr := by
  have h6 : ∀ c, WFa c → Spec.C14.eligible c = true → c.addr.addr.is6 = true := by
    intro c hc he
    simp only [Spec.C14.eligible, Bool.and_eq_true, Bool.not_eq_true'] at he
    exact IP.is6_of_not_is4 (Prefix.valid_of_isValid hc.1) he.1.1.1
  rw [← Nat.compare_eq_eq, compare_rank ha.2 hb.2, Ordering.then_eq_eq, Ordering.then_eq_eq] at h
  exact addrKey_inj (h6 a ha hae) (h6 b hb hbe) (Nat.compare_eq_eq.mp h.2.2)

theorem fold_min (l : List SysIP) (best : SysIP) (hwf : ∀ a ∈ best :: l, WFa a) :
    l.foldl betterRDNSS best ∈ best :: l ∧
      ∀ a ∈ best :: l, Spec.C14.rank (l.foldl betterRDNSS best) ≤ Spec.C14.rank a := by
  induction l generalizing best with
  | nil => simp
  | cons x xs ih =>
    simp only [List.forall_mem_cons] at hwf
    rw [List.foldl_cons, better_is_min best x hwf.1 hwf.2.1]
    split
    · obtain ⟨hm, hle⟩ := ih x (List.forall_mem_cons.mpr hwf.2)
      rw [List.forall_mem_cons] at hle
      exact ⟨.tail _ hm, List.forall_mem_cons.mpr ⟨by omega, List.forall_mem_cons.mpr hle⟩⟩
    · obtain ⟨hm, hle⟩ := ih best (List.forall_mem_cons.mpr ⟨hwf.1, hwf.2.2⟩)
      rw [List.forall_mem_cons] at hle
      refine ⟨?_, List.forall_mem_cons.mpr ⟨hle.1, List.forall_mem_cons.mpr ⟨by omega, hle.2⟩⟩⟩
      rcases List.mem_cons.mp hm with h | h
      · rw [h]; exact .head _
      · exact .tail _ (.tail _ h)

private theorem better_zero (x : SysIP) : betterRDNSS SysIP.zero x = x := rfl

theorem current_spec (as : List SysIP) (hwf : WF as) :
    match currentRDNSS as with
    | none => ∀ a ∈ as, Spec.C14.eligible a = false
    | some ip => ∃ a ∈ as, Spec.C14.eligible a = true ∧ a.addr.addr = ip ∧
        ∀ b ∈ as, Spec.C14.eligible b = true → Spec.C14.rank a ≤ Spec.C14.rank b := by
  have hmem : ∀ a, a ∈ as.filter rdnssEligible ↔ a ∈ as ∧ Spec.C14.eligible a = true := by
    intro a; rw [List.mem_filter, eligible_eq]
  cases hel : as.filter rdnssEligible with
  | nil =>
    simp only [currentRDNSS, hel, List.foldl_nil]
    intro a ha
    rw [← eligible_eq]
    exact Bool.eq_false_iff.mpr (List.filter_eq_nil_iff.mp hel a ha)
  | cons x xs =>
    rw [hel] at hmem
    obtain ⟨hm, hle⟩ := fold_min xs x (fun a ha => hwf a ((hmem a).mp ha).1)
    obtain ⟨hr, hre⟩ := (hmem _).mp hm
    simp only [currentRDNSS, hel, List.foldl_cons, better_zero,
      Prefix.valid_of_isValid (hwf _ hr).1, if_true]
    exact ⟨_, hr, hre, rfl, fun b hb he => hle b ((hmem b).mpr ⟨hb, he⟩)⟩

/-- If no address is eligible, RA generation fails instead of advertising an unusable server. -/
theorem none_iff (as : List SysIP) (hwf : WF as) :
    currentRDNSS as = none ↔ ∀ a ∈ as, Spec.C14.eligible a = false := by
  have := current_spec as hwf
  constructor
  · intro h; rwa [h] at this
  · intro h
    cases hc : currentRDNSS as with
    | none => rfl
    | some ip =>
      rw [hc] at this
      obtain ⟨a, ha, he, _⟩ := this
      rw [h a ha] at he; cases he

/-- The chosen server is the address of a rank-minimal eligible entry of the list. -/
theorem some_iff (as : List SysIP) (hwf : WF as) (ip : IP) :
    currentRDNSS as = some ip ↔
      ∃ a ∈ as, Spec.C14.eligible a = true ∧ a.addr.addr = ip ∧
        ∀ b ∈ as, Spec.C14.eligible b = true → Spec.C14.rank a ≤ Spec.C14.rank b := by
  have := current_spec as hwf
  constructor
  · intro h; rwa [h] at this
  · rintro ⟨a, ha, he, rfl, hmin⟩
    cases hc : currentRDNSS as with
    | none => rw [hc] at this; rw [this a ha] at he; cases he
    | some ip' =>
      rw [hc] at this
      obtain ⟨r, hr, hre, rfl, hrmin⟩ := this
      have h1 := hmin r hr hre
      have h2 := hrmin a ha he
      rw [addr_eq_of_rank_eq r a (hwf r hr) (hwf a ha) hre he (by omega)]

/-- The choice does not depend on the order (or multiplicity) in which addresses are listed. -/
theorem ext_invariant (as bs : List SysIP) (hwf : WF as) (h : ∀ a, a ∈ as ↔ a ∈ bs) :
    currentRDNSS as = currentRDNSS bs := by
  have hwf' : WF bs := fun a ha => hwf a ((h a).mpr ha)
  refine Option.ext fun ip => ?_
  simp only [some_iff _ hwf, some_iff _ hwf', h]

theorem perm_invariant (as bs : List SysIP) (hwf : WF as) (h : as.Perm bs) :
    currentRDNSS as = currentRDNSS bs :=
  ext_invariant as bs hwf (fun _ => h.mem_iff)

/-- Statically configured servers follow the chosen address unchanged; a failing address
    source or an empty choice fails RA generation. -/
theorem apply_shape (static : List IP) (src : Option (List SysIP)) :
    applyRDNSS true static src =
      match src with
      | none => none
      | some as => (currentRDNSS as).map (fun ip => ip :: static) := by
  unfold applyRDNSS
  cases src with
  | none => rfl
  | some as => cases h : currentRDNSS as <;> simp [h]

/-- The model meets the oracle that the check evaluates on the implementation's output. -/
theorem holds_model (static : List IP) (as : List SysIP) (hwf : WF as) :
    Spec.C14.holds static as (applyRDNSS true static (some as)) = true := by
  rw [apply_shape]
  simp only
  have hs := current_spec as hwf
  revert hs
  cases currentRDNSS as with
  | none =>
    intro hs
    simpa [Spec.C14.holds] using hs
  | some ip =>
    rintro ⟨a, ha, he, hip, hmin⟩
    simp only [Option.map_some, Spec.C14.holds, Bool.and_eq_true, beq_self_eq_true, true_and,
      List.any_eq_true, List.all_eq_true, not_or_eq_true_iff_imp, decide_eq_true_eq, beq_iff_eq]
    exact ⟨a, ha, ⟨he, hip⟩, hmin⟩

/-- Non-vacuity: a stable global address beats an unstable unique-local one; among unstable
    addresses the unique-local one wins; deprecated entries are ignored. -/
example :
    let ula : SysIP := { addr := { addr := { val := 0xfd000000000000000000000000000005 }, bits := 64 } }
    let gua : SysIP := { addr := { addr := { val := 0x20010db8000000000000000000000005 }, bits := 64 } }
    let guaS : SysIP := { addr := { addr := { val := 0x20010db8000000000000000000000002 }, bits := 64 }, stablePrivacy := true }
    let dep : SysIP := { addr := { addr := { val := 0xfd000000000000000000000000000001 }, bits := 64 }, deprecated := true, validForever := true }
    currentRDNSS [gua, ula, dep] = some ula.addr.addr ∧
    currentRDNSS [ula, guaS, gua, dep] = some guaS.addr.addr ∧
    currentRDNSS [dep] = none := by
  decide

end Corerad.Props.C14
