/-
  TransC02 — the Go → Lean translations of `parseMinInterval`, `parseDefaultLifetime`
  (internal/config/interface.go) and `checkLifetime` (internal/config/plugin.go), regenerated into
  `Corerad.Gen.Trans` from the current source text on every run, equal the hand-written model
  definitions `Model.parseMinInterval`, `Model.parseDefaultLifetime`, `Model.lifetimeInRange`.

  Reading of the translation (tools/extract/translate.go): an error return is `none`; the pure
  external functions `time.ParseDuration` and (package config) `parseDuration` are function
  parameters applied to the translated arguments; `time.Duration(0.33 * float64(max))` and
  `time.Duration(0.75 * float64(max))` are `Model.mul033 max` / `Model.mul075 max` (the only float
  idioms the translator accepts, literal matched exactly); a `*string` is an `Option String`.
  `parseDuration` (internal/config/config.go) is itself translated and proved equal to
  `Model.parseDuration`, which closes the loop for `parseDefaultLifetime`.

  The model classifies a duration-valued key as a `Model.DurStr`; the Go functions see a string and
  what the parser returns for it.  `MinStr` is that correspondence for `min_interval` (a plain
  string: "infinite" is not special there, `time.ParseDuration` fails on it); it is total
  (`minStr_total`), so the equivalence covers every input of the Go function.
-/
import Corerad.Gen.Trans
import Corerad.Props.C02
import Corerad.Lemmas.Translated

namespace Corerad.Props.TransC02

/-- the string `s` of a `min_interval` key and the result `r` of `time.ParseDuration(s)`, as
    classified by the model -/
def MinStr (ds : Model.DurStr) (s : String) (r : Option Dur) : Prop :=
  match ds with
  | .unset | .empty => s = ""
  | .auto => s = "auto"
  | .infinite | .bad => s ≠ "" ∧ s ≠ "auto" ∧ r = none
  | .lit d => s ≠ "" ∧ s ≠ "auto" ∧ r = some d

/-- every (string, parse result) pair is the image of some model input -/
theorem minStr_total (s : String) (r : Option Dur) : ∃ ds, MinStr ds s r := by
  by_cases h1 : s = ""
  · exact ⟨.empty, h1⟩
  · by_cases h2 : s = "auto"
    · exact ⟨.auto, h2⟩
    · cases r with
      | none => exact ⟨.bad, h1, h2, rfl⟩
      | some d => exact ⟨.lit d, h1, h2, rfl⟩

/-- `parseMinInterval(s, max)` as translated from the source = the model, for every key, every
    maximum interval and every behaviour of `time.ParseDuration`. -/
theorem parseMinInterval_equiv (ds : Model.DurStr) (s : String) (parse : String → Option Dur) (max : Dur)
    (h : MinStr ds s (parse s)) :
    Gen.Trans.parseMinInterval (s := s) (max := max) (time_ParseDuration := parse)
      = Model.parseMinInterval ds max := by
  unfold Gen.Trans.parseMinInterval Model.parseMinInterval
  cases ds <;> simp only [MinStr] at h <;> simp [h] <;> split_leaves

/-- `parseDefaultLifetime(s, max)` as translated from the source = the model, whenever the
    package's `parseDuration` behaves on this key as the model's `parseDuration` does on its
    classification (that function is an external parameter of both). -/
theorem parseDefaultLifetime_equiv (ds : Model.DurStr) (s : Option String)
    (pdur : Option String → Dur → Option Dur) (max : Dur)
    (h : ∀ d, pdur s d = Model.parseDuration ds d) :
    Gen.Trans.parseDefaultLifetime (s := s) (max := max) (parseDuration := pdur)
      = Model.parseDefaultLifetime ds max := by
  unfold Gen.Trans.parseDefaultLifetime Model.parseDefaultLifetime
  rw [h]
  cases Model.parseDuration ds (3 * max) <;> simp <;> split_leaves

/-- a duration-valued `*string` key as `parseDuration` sees it (`s`, and the behaviour `parse` of
    `time.ParseDuration` on what it points to), as classified by the model -/
def DurKey (ds : Model.DurStr) (s : Option String) (parse : String → Option Dur) : Prop :=
  match ds with
  | .unset => s = none
  | .auto => s = some "auto"
  | .infinite => s = some "infinite"
  | .empty => s = some ""
  | .bad => ∃ v, s = some v ∧ v ≠ "infinite" ∧ v ≠ "auto" ∧ v ≠ "" ∧ parse v = none
  | .lit d => ∃ v, s = some v ∧ v ≠ "infinite" ∧ v ≠ "auto" ∧ v ≠ "" ∧ parse v = some d

/-- every (`*string`, parser) pair is the image of some model input -/
theorem durKey_total (s : Option String) (parse : String → Option Dur) : ∃ ds, DurKey ds s parse := by
  cases s with
  | none => exact ⟨.unset, rfl⟩
  | some v =>
    by_cases h1 : v = "infinite"
    · exact ⟨.infinite, by simp only [DurKey, h1]⟩
    · by_cases h2 : v = "auto"
      · exact ⟨.auto, by simp only [DurKey, h2]⟩
      · by_cases h3 : v = ""
        · exact ⟨.empty, by simp only [DurKey, h3]⟩
        · cases h : parse v with
          | none => exact ⟨.bad, v, rfl, h1, h2, h3, h⟩
          | some d => exact ⟨.lit d, v, rfl, h1, h2, h3, h⟩

/-- `parseDuration(s, def)` (internal/config/config.go) as translated from the source = the model's
    `parseDuration`, for every key, default and behaviour of `time.ParseDuration`. -/
theorem parseDuration_equiv (ds : Model.DurStr) (s : Option String) (parse : String → Option Dur) (dflt : Dur)
    (h : DurKey ds s parse) :
    Gen.Trans.parseDuration (s := s) («def» := dflt) (time_ParseDuration := parse)
      = Model.parseDuration ds dflt := by
  unfold Gen.Trans.parseDuration
  cases ds with
  | unset => rw [show s = none from h]; rfl
  | auto => rw [show s = some "auto" from h]; rfl
  | infinite => rw [show s = some "infinite" from h]; rfl
  | empty => rw [show s = some "" from h]; rfl
  | bad =>
    obtain ⟨v, rfl, h1, h2, h3, h4⟩ := h
    simp only [if_neg h1, if_neg h2, if_neg h3, h4]; rfl
  | lit d =>
    obtain ⟨v, rfl, h1, h2, h3, h4⟩ := h
    simp only [if_neg h1, if_neg h2, if_neg h3, h4]; rfl

/-- end to end: `parseDefaultLifetime` calling the translated `parseDuration` = the model -/
theorem parseDefaultLifetime_parseDuration_equiv (ds : Model.DurStr) (s : Option String)
    (parse : String → Option Dur) (max : Dur) (h : DurKey ds s parse) :
    Gen.Trans.parseDefaultLifetime (s := s) (max := max)
        (parseDuration := fun s d => Gen.Trans.parseDuration (s := s) («def» := d) (time_ParseDuration := parse))
      = Model.parseDefaultLifetime ds max :=
  parseDefaultLifetime_equiv ds s _ max (fun d => parseDuration_equiv ds s parse d h)

/-- `checkLifetime(d)` returns nil exactly when the model's range check accepts. -/
theorem checkLifetime_equiv (d : Dur) :
    (Gen.Trans.checkLifetime (d := d)).isSome = Model.lifetimeInRange d := by
  unfold Gen.Trans.checkLifetime Model.lifetimeInRange
  split <;> simp <;> omega

/-- non-trivial instances, evaluated on both sides: the automatic minimum for `max = 10 s` is
    `trunc(0.33 · 10 s) = 3 s`; an explicit 7.5 s is the largest accepted for `max = 10 s`, 7.6 s
    is rejected -/
example :
    Gen.Trans.parseMinInterval (s := "auto") (max := 10 * second) (time_ParseDuration := fun _ => none) = some (3 * second)
    ∧ Model.parseMinInterval .auto (10 * second) = some (3 * second) := by
  decide +kernel

example :
    Gen.Trans.parseMinInterval (s := "7s") (max := 10 * second) (time_ParseDuration := fun _ => some (7 * second)) = some (7 * second)
    ∧ Model.parseMinInterval (.lit (7 * second)) (10 * second) = some (7 * second)
    ∧ Gen.Trans.parseMinInterval (s := "7.6s") (max := 10 * second) (time_ParseDuration := fun _ => some 7600000000) = none
    ∧ Model.parseMinInterval (.lit 7600000000) (10 * second) = none := by
  decide +kernel

/-- default lifetime: unset key ⇒ `3 · max`; 9001 s is out of range -/
example :
    Gen.Trans.parseDefaultLifetime (s := none) (max := 600 * second)
        (parseDuration := fun _ d => Model.parseDuration .unset d) = some (1800 * second)
    ∧ Model.parseDefaultLifetime .unset (600 * second) = some (1800 * second)
    ∧ Gen.Trans.parseDefaultLifetime (s := some "9001s") (max := 600 * second)
        (parseDuration := fun _ d => Model.parseDuration (.lit (9001 * second)) d) = none
    ∧ Model.parseDefaultLifetime (.lit (9001 * second)) (600 * second) = none := by
  decide +kernel

/-- `parseDuration`: "infinite" is `ndp.Infinity`, an unset key is the default, "90s" is parsed -/
example :
    Gen.Trans.parseDuration (s := some "infinite") («def» := 5) (time_ParseDuration := fun _ => none) = some infinity
    ∧ Model.parseDuration .infinite 5 = some infinity
    ∧ Gen.Trans.parseDuration (s := none) («def» := 5) (time_ParseDuration := fun _ => none) = some 5
    ∧ Model.parseDuration .unset 5 = some 5
    ∧ Gen.Trans.parseDuration (s := some "90s") («def» := 5) (time_ParseDuration := fun _ => some (90 * second)) = some (90 * second)
    ∧ Model.parseDuration (.lit (90 * second)) 5 = some (90 * second) := by
  decide

example : (Gen.Trans.checkLifetime (d := infinity + 1)).isSome = false ∧ Model.lifetimeInRange (infinity + 1) = false
    ∧ (Gen.Trans.checkLifetime (d := infinity)).isSome = true ∧ Model.lifetimeInRange infinity = true := by
  decide

/-! ### `parseInterface` — the interface-level validation (tools/extract/translate_iface.go)

`Gen.Trans.parseInterface` is `config.parseInterface` re-translated on every run over the model's
record types: the monitor/advertise exclusion, the monitor short-circuit, every bound with its default,
the order in which `min_interval`, `default_lifetime`, `preference` and the plugins are resolved, and
the fields of the resulting `Interface`.  The package functions it calls are parameters; instantiated
with the model's (whose own equivalences with the translated `parseMinInterval` /
`parseDefaultLifetime` are above), the translated function IS `Model.parseInterface` — the function
`accept_iff` (Props/C02) characterises by the documented constraints. -/

theorem parseInterface_equiv (name : Nat) (ifi : Model.RawInterface) :
    Gen.Trans.parseInterface name ifi (time_ParseDuration_orDefault := Model.parsePlainDur)
        (parseMinInterval := Model.parseMinInterval) (parseDefaultLifetime := Model.parseDefaultLifetime)
        (parsePreference := Model.parsePreference) (parsePlugins := Model.parsePlugins)
      = Model.parseInterface name ifi := by
  unfold Gen.Trans.parseInterface Model.parseInterface
  obtain ⟨g1, g2, g3, g4, g5, g6, g7, g8, g9, g10, -, -, -⟩ := C02.gen_constants
  cases ifi.monitor with
  | true => cases ifi.advertise <;> rfl
  | false =>
    -- the same program: the translation writes `match` where the model writes `←`
    simp only [Option.bind_eq_bind, Option.bind_none, Option.pure_def, Bool.or_eq_true, decide_eq_true_eq,
      Bool.false_and, Bool.false_eq_true, if_false, g1, g2, g3, g4, g5, g6, g7, g8, g9, g10, Int.zero_mul,
      Int.one_mul]
    cases Model.parsePlainDur ifi.maxInterval (600 * second) with
    | none => rfl
    | some maxI =>
    simp only [Option.bind_some]
    cases Model.parseMinInterval ifi.minInterval maxI with
    | none => rfl
    | some minI =>
    cases Model.parsePlainDur ifi.reachable 0 with
    | none => rfl
    | some re =>
    simp only [Option.bind_some]
    cases Model.parsePlainDur ifi.retransmit 0 with
    | none => rfl
    | some rt =>
    simp only [Option.bind_some]
    cases ifi.hopLimit
    all_goals
      cases Model.parseDefaultLifetime ifi.defaultLifetime maxI with
      | none => rfl
      | some lt =>
      cases Model.parsePreference ifi.preference with
      | none => rfl
      | some pref => cases Model.parsePlugins ifi maxI <;> rfl

/-- non-vacuity: a monitoring interface, a rejected interval, an accepted advertising interface -/
example :
    Gen.Trans.parseInterface 7 { monitor := true, verbose := true } Model.parsePlainDur Model.parseMinInterval
        Model.parseDefaultLifetime Model.parsePreference Model.parsePlugins
      = some { name := 7, monitor := true, verbose := true } ∧
    Gen.Trans.parseInterface 7 { advertise := true, maxInterval := .lit (3 * second) } Model.parsePlainDur
        Model.parseMinInterval Model.parseDefaultLifetime Model.parsePreference Model.parsePlugins = none ∧
    (Gen.Trans.parseInterface 7 { advertise := true, maxInterval := .lit (10 * second), hopLimit := some 0 }
        Model.parsePlainDur Model.parseMinInterval Model.parseDefaultLifetime Model.parsePreference
        Model.parsePlugins).isSome = true := by
  decide +kernel

end Corerad.Props.TransC02
