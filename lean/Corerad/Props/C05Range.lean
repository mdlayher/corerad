/-
  C05 ∘ C02 — the configuration validator hands the multicast loop intervals for which choosing
  the wait never fails and never yields a non-positive wait.

  `Props/C05` proves the bounds of `multicastDelay` under hypotheses on `(min, max)`;
  `Props/C02` proves that the parser accepts exactly the documented stanzas and resolves them to
  `expInterface`.  This file closes the gap: every accepted advertising stanza resolves to
  `(min, max)` with `2 s ≤ min ≤ max`, `4 s ≤ max ≤ 1800 s` — for EVERY nanosecond value of
  `max_interval`, not only the whole seconds of `C02.min_default_table` — hence meets the
  hypotheses of the C05 theorems.

  The float64 product `0.33 · float64(max)` is within a nanosecond of the exact `33·max/100`
  (`Model.mul033_near`, from the relative error 2⁻⁵² of the rounding), which is ample: 0.33·x lies
  well inside [2 s, x].

  FINDING recorded here as theorems (`default_min_is_2s`, `default_min_below_documented`): the
  lower bound is 2 s, not the documented 3 s.  For 9 s ≤ max_interval ≤ 9.090909090 s the
  *default* min_interval is ⌊0.33·max⌋ₛ = 2 s, a value the validator rejects when it is written
  explicitly (`explicit_2s_rejected`).  From 9.090909091 s upwards the default is ≥ 3 s
  (`default_min_ge_3s`).
-/
import Corerad.Props.C02
import Corerad.Props.C05

namespace Corerad.Props.C05Range

open Corerad.Model Corerad.Spec.C02 Corerad.Props.C02

/-! ### the default `min_interval`: `0.33 · max_interval`, truncated to a second -/

/-- `mul033_near` leaves a nanosecond of slack, which integrality takes back -/
theorem truncMul033 (x : Int) (h0 : 0 ≤ x) (h1 : x ≤ 1800 * second) :
    truncateDur (mul033 x) second % second = 0 ∧ 100 * truncateDur (mul033 x) second ≤ 33 * x ∧
      33 * x ≤ 100 * truncateDur (mul033 x) second + 100 * second := by
  have hn := mul033_near x h0 h1
  have ht := truncateDur_spec second_pos (d := mul033 x) (Int.natCast_nonneg _)
  omega

/-- a little more: the default is strictly below `max_interval` (so `Int63n` is called) and at
    most 0.34·max -/
theorem mul033_lt (x : Int) (h1 : 9 * second ≤ x) (h2 : x ≤ 1800 * second) :
    100 * truncateDur (mul033 x) second ≤ 34 * x ∧ truncateDur (mul033 x) second < x := by
  have := truncMul033 x (by unfold second at h1; omega) h2
  unfold second at *
  omega

/-- from 9.090909091 s upwards the default is at least the documented minimum of 3 s -/
theorem default_min_ge_3s (x : Int) (h1 : 9090909091 ≤ x) (h2 : x ≤ 1800 * second) :
    3 * second ≤ truncateDur (mul033 x) second := by
  have := truncMul033 x (by omega) h2
  unfold second at *
  omega

/-- **Finding.**  For every `max_interval` in [9 s, 9.090909090 s] the default `min_interval` is
    exactly 2 s — below the documented minimum of 3 s. -/
theorem default_min_is_2s (x : Int) (h1 : 9 * second ≤ x) (h2 : x ≤ 9090909090) :
    truncateDur (mul033 x) second = 2 * second := by
  have := truncMul033 x (by unfold second at h1; omega) (by unfold second; omega)
  unfold second at *
  omega

/-- the witnesses in closed form: 0.33 · 9 s = 2.97 s ↦ 2 s; the last nanosecond value with a
    2 s default and the first with a 3 s default -/
theorem default_min_below_documented :
    mul033 (9 * second) = 2970000000 ∧ truncateDur (mul033 (9 * second)) second = 2 * second ∧
    minDefault (9 * second) = 2 * second ∧
    mul033 9090909090 = 2999999999 ∧ minDefault 9090909090 = 2 * second ∧
    mul033 9090909091 = 3000000000 ∧ minDefault 9090909091 = 3 * second := by
  decide +kernel

/-- … whereas the same value written explicitly is rejected (and is not documented as valid) -/
theorem explicit_2s_rejected :
    parseMinInterval (.lit (2 * second)) (9 * second) = none ∧
    minOf (.lit (2 * second)) (9 * second) = none ∧
    parseMinInterval .empty (9 * second) = some (2 * second) := by
  decide +kernel

/-! ### the resolved intervals of an accepted advertising stanza -/

theorem minDefault_range (maxI : Dur) (h4 : 4 * second ≤ maxI) (h1800 : maxI ≤ 1800 * second) :
    2 * second ≤ minDefault maxI ∧ minDefault maxI ≤ maxI := by
  unfold minDefault
  split
  · rename_i h9
    have := truncMul033 maxI (by unfold second at h9; omega) h1800
    unfold second at *
    omega
  · unfold second at *; omega

theorem minUpper_le (maxI : Dur) (h4 : 4 * second ≤ maxI) (h1800 : maxI ≤ 1800 * second) :
    minUpper maxI ≤ maxI := by
  have h0 : 0 ≤ maxI := Int.le_trans (by decide) h4
  rw [minUpper_eq maxI h0 (Int.lt_of_le_of_lt h1800 (by decide))]
  have ht := (truncateDur_spec second_pos (d := (3 * maxI) / 4) (by omega)).2.1
  omega

theorem minOf_range (s : DurStr) (maxI m : Dur) (h4 : 4 * second ≤ maxI) (h1800 : maxI ≤ 1800 * second)
    (h : minOf s maxI = some m) : 2 * second ≤ m ∧ m ≤ maxI := by
  rcases minOf_cases s maxI m h with rfl | hc
  · exact minDefault_range maxI h4 h1800
  · have := minUpper_le maxI h4 h1800
    unfold second at *; omega

/-- The resolved intervals of every accepted advertising stanza.  The lower bound is
    the true one, 2 s (attained: `nonvacuous_2s`), not the documented 3 s. -/
theorem accepted_range (n : Nat) (i : RawInterface) (hdoc : docInterface i = true)
    (hadv : i.monitor = false) :
    let ifi := expInterface n i
    2 * second ≤ ifi.minInterval ∧ ifi.minInterval ≤ ifi.maxInterval ∧
      4 * second ≤ ifi.maxInterval ∧ ifi.maxInterval ≤ 1800 * second := by
  obtain ⟨maxI, m, h4, h1800, hm, e1, e2⟩ := accepted_intervals n i hdoc hadv
  have hr := minOf_range i.minInterval maxI m h4 h1800 hm
  simp only [e1, e2]
  exact ⟨hr.1, hr.2, h4, h1800⟩

/-- the exact extent of the finding: outside `max_interval ∈ [9 s, 9.090909090 s]` the resolved
    `min_interval` of an accepted advertising stanza does respect the documented 3 s -/
theorem accepted_min_ge_3s (n : Nat) (i : RawInterface) (hdoc : docInterface i = true)
    (hadv : i.monitor = false)
    (hout : (expInterface n i).maxInterval < 9 * second ∨ 9090909091 ≤ (expInterface n i).maxInterval) :
    3 * second ≤ (expInterface n i).minInterval := by
  obtain ⟨maxI, m, h4, h1800, hm, e1, e2⟩ := accepted_intervals n i hdoc hadv
  rw [e1] at hout
  rw [e2]
  -- an explicit value is never below the documented 3 s: only the default can be
  rcases minOf_cases _ maxI m hm with rfl | hc
  · unfold minDefault
    split
    · rename_i h9
      exact default_min_ge_3s maxI (by unfold second at hout h9; omega) h1800
    · unfold second at *; omega
  · exact hc.1

/-- the hypotheses of the `C05` theorems -/
theorem accepted_min_pos (n : Nat) (i : RawInterface) (hdoc : docInterface i = true)
    (hadv : i.monitor = false) :
    500 * ms ≤ (expInterface n i).minInterval ∧ 0 < (expInterface n i).minInterval ∧
      (expInterface n i).minInterval ≤ (expInterface n i).maxInterval := by
  obtain ⟨h2, hle, -, -⟩ := accepted_range n i hdoc hadv
  unfold ms
  unfold second at h2
  exact ⟨by omega, by omega, hle⟩

/-- For an accepted advertising stanza, choosing the wait never fails (`Int63n`'s
    argument is positive whenever it is evaluated, i.e. whenever `min ≠ max`) and never yields a
    non-positive wait: every wait is between 1 s and `MaxRtrAdvInterval` rounded to a second,
    whatever the draw and the index. -/
theorem accepted_delay_ok (n : Nat) (i : RawInterface) (hdoc : docInterface i = true)
    (hadv : i.monitor = false) :
    let ifi := expInterface n i
    (ifi.minInterval ≠ ifi.maxInterval → 0 < ifi.maxInterval - ifi.minInterval) ∧
    ∀ (d : Int) (k : Nat), 0 ≤ d →
      (ifi.minInterval = ifi.maxInterval ∨ d < ifi.maxInterval - ifi.minInterval) →
      second ≤ multicastDelay d k ifi.minInterval ifi.maxInterval ∧
      multicastDelay d k ifi.minInterval ifi.maxInterval ≤ roundDur ifi.maxInterval second := by
  obtain ⟨hmin, hpos, hle⟩ := accepted_min_pos n i hdoc hadv
  exact ⟨fun hne => by omega, fun d k hd0 hd1 =>
    ⟨C05.delay_pos d k _ _ hmin hle hd0, C05.delay_upper d k _ _ hpos hle hd0 hd1⟩⟩

/-- after the three initial advertisements the wait is also at least `MinRtrAdvInterval` rounded
    to a second, and the loop diverges in time -/
theorem accepted_delay_lower (n : Nat) (i : RawInterface) (hdoc : docInterface i = true)
    (hadv : i.monitor = false) :
    let ifi := expInterface n i
    (∀ (d : Int) (k : Nat), 0 ≤ d → 3 ≤ k →
      roundDur ifi.minInterval second ≤ multicastDelay d k ifi.minInterval ifi.maxInterval) ∧
    ∀ (draws : Nat → Int), (∀ j, 0 ≤ draws j) → ∀ j : Nat,
      (j : Int) * second ≤ requestTime draws ifi.minInterval ifi.maxInterval j := by
  obtain ⟨hmin, hpos, hle⟩ := accepted_min_pos n i hdoc hadv
  exact ⟨fun d k hd0 hk => C05.delay_lower d k _ _ hpos hle hd0 hk,
    fun draws hd j => C05.loop_diverges draws _ _ hmin hle hd j⟩

/-! ### the same for the parser (`parseInterface`) -/

/-- Every advertising interface returned by the parser has
    `2 s ≤ min ≤ max`, `4 s ≤ max ≤ 1800 s`; choosing the wait never fails and every wait is
    within [1 s, Round(max)]. -/
theorem parsed_range (n : Nat) (i : RawInterface) (hwf : wfIface i = true) (hadv : i.monitor = false)
    (ifi : Interface) (h : parseInterface n i = some ifi) :
    (2 * second ≤ ifi.minInterval ∧ ifi.minInterval ≤ ifi.maxInterval ∧
      4 * second ≤ ifi.maxInterval ∧ ifi.maxInterval ≤ 1800 * second) ∧
    (ifi.minInterval ≠ ifi.maxInterval → 0 < ifi.maxInterval - ifi.minInterval) ∧
    ∀ (d : Int) (k : Nat), 0 ≤ d →
      (ifi.minInterval = ifi.maxInterval ∨ d < ifi.maxInterval - ifi.minInterval) →
      second ≤ multicastDelay d k ifi.minInterval ifi.maxInterval ∧
      multicastDelay d k ifi.minInterval ifi.maxInterval ≤ roundDur ifi.maxInterval second := by
  obtain ⟨hdoc, rfl⟩ := parsed n i hwf ifi h
  exact ⟨accepted_range n i hdoc hadv, accepted_delay_ok n i hdoc hadv⟩

/-- the hypothesis on the raw stanza can be read off the result -/
theorem parsed_monitor (n : Nat) (i : RawInterface) (hwf : wfIface i = true) (ifi : Interface)
    (h : parseInterface n i = some ifi) : ifi.monitor = i.monitor := by
  obtain ⟨-, rfl⟩ := parsed n i hwf ifi h
  unfold expInterface
  cases i.monitor <;> rfl

/-! ### non-vacuity -/

/-- a stanza with `max_interval = "9.5s"` and everything else at its default -/
def exIface : RawInterface := { name := 1, advertise := true, maxInterval := .lit 9500000000 }

/-- it is well-formed, documented, accepted, not a monitor; it resolves to min 3 s (0.33 · 9.5 s =
    3.135 s), max 9.5 s, and the waits range from 3 s (draw 0) to 9 s (extreme draw), within [1 s, Round(9.5 s) = 10 s] -/
example : wfIface exIface = true ∧ docInterface exIface = true ∧ exIface.monitor = false ∧
    (parseInterface 1 exIface).isSome = true ∧
    (expInterface 1 exIface).minInterval = 3 * second ∧
    (expInterface 1 exIface).maxInterval = 9500000000 ∧
    multicastDelay (6500000000 - 1) 3 (3 * second) 9500000000 = 9 * second ∧
    roundDur 9500000000 second = 10 * second ∧
    multicastDelay 0 3 (3 * second) 9500000000 = 3 * second := by
  decide +kernel

/-- the finding as an accepted stanza: `max_interval = "9s"` resolves to `min_interval = 2 s` -/
def exIface9 : RawInterface := { name := 1, advertise := true, maxInterval := .lit (9 * second) }

theorem nonvacuous_2s : wfIface exIface9 = true ∧ docInterface exIface9 = true ∧
    (parseInterface 1 exIface9).map (·.minInterval) = some (2 * second) ∧
    (expInterface 1 exIface9).minInterval = 2 * second := by
  decide +kernel

end Corerad.Props.C05Range
