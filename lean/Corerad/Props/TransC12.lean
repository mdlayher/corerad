/-
  TransC12 — internal/corerad/verify.go tied to `Model/Verify.lean` by REGENERATION.

  1. `checkDurations` and `equalLifetimes` are re-translated from the current source text into
     `Corerad.Gen.Trans` on every run (tools/extract/translate.go); the theorems below state that
     the translations equal the model's `checkDurations` and the inlined `wireSec a ≠ wireSec b`
     for all inputs (the repair of F-9: comparison at wire precision).
  2. `Corerad.Gen.Verify` (tools/extract/verify.go) carries the decision structure around them as
     printed facts: the check functions `verifyRAs` merges and their order, the labels every check
     function can push, the printed `if` header guarding every push, the control skeleton of
     every check function, and that MTU / captive-portal options are compared by value (F-8).
     The `gen_*` lemmas pin them; a source change that swaps two checks, drops a push,
     turns `!=` into `==`, … makes one of them false and the check reports a broken proof.
  3. The labels are connected to the model: `label` is the metric label of each `Model.Field`
     (the table `c12Fields` of the harness); every problem the model's `verifyRAs` can emit
     carries a label some extracted push has, per check function, and every extracted label is
     emitted by the model on some pair of RAs.
-/
import Corerad.Gen.Trans
import Corerad.Gen.Verify
import Corerad.Props.C12

-- `checkDurations_equiv` and `equalLifetimes_equiv` give `simp` the comparison in both orientations, to survive
-- the source swapping the operands of `==`: one of the two is unused
set_option linter.unusedSimpArgs false

namespace Corerad.Props.TransC12

/- The printed whole-function skeletons (`Gen.Verify.*Skeleton`) are kept as regenerated facts for
   the evidence but are not pinned by lemmas: a rename of a local would break them although nothing
   changed. What the model relies on is pinned semantically below: merge order, reportable fields,
   guard conditions, comparison by value, the pick helpers. -/

open Corerad Corerad.Model

/-! ### 1. the translated arithmetic helpers -/

/-- `checkDurations(want, got, unit)` as translated = the model's `checkDurations` (arguments by
    POSITION: the Go parameter order; renaming a parameter keeps the statement). -/
theorem checkDurations_equiv (want got unit : Dur) :
    Gen.Trans.checkDurations want got unit
      = Model.checkDurations unit want got := by
  unfold Gen.Trans.checkDurations Model.checkDurations
  generalize truncateDur want unit = x
  generalize truncateDur got unit = y
  by_cases hx : x = 0 <;> by_cases hy : y = 0 <;> by_cases hxy : x = y <;>
    simp_all [eq_comm (a := y) (b := x)]

/-- `equalLifetimes(a, b)` as translated = equality of the wire values (the model inlines
    `wireSec a ≠ wireSec b` in `checkPrefixInner`, `checkRouteInner`, `checkDNSPairs`). -/
theorem equalLifetimes_equiv (a b : Dur) :
    Gen.Trans.equalLifetimes a b = decide (Model.wireSec a = Model.wireSec b) := by
  unfold Gen.Trans.equalLifetimes Model.wireSec
  generalize truncateDur a second = x
  generalize truncateDur b second = y
  rcases Decidable.em (x = y) with h | h
  · subst h; simp
  · have h' : ¬ y = x := fun e => h e.symm
    simp [h, h']

/-- the guard `!equalLifetimes(a, b)` of the source is the guard `wireSec a ≠ wireSec b` of the model -/
theorem not_equalLifetimes_iff (a b : Dur) :
    (!Gen.Trans.equalLifetimes a b) = true ↔ Model.wireSec a ≠ Model.wireSec b := by
  rw [equalLifetimes_equiv]; simp

/-- the guard `!checkDurations(a, b, time.Millisecond)` of `checkRAs` is the oracle's `timerDiffers` -/
theorem not_checkDurations_ms (a b : Dur) :
    (!Gen.Trans.checkDurations a b ms) = Spec.C12.timerDiffers a b := by
  rw [checkDurations_equiv]; exact Props.C12.checkDurations_eq a b

/-- non-trivial instances (F-9): 1.5 ms vs 1 ms agree at wire precision, 1 ms vs 2 ms do not,
    an unspecified side is always consistent; 1.5 s vs 1 s are equal lifetimes, 1 s vs 2 s are not -/
example :
    Gen.Trans.checkDurations (1500 * us) (ms) (ms) = true ∧
    Gen.Trans.checkDurations (ms) (2 * ms) (ms) = false ∧
    Gen.Trans.checkDurations (999 * us) (2 * ms) (ms) = true ∧
    Gen.Trans.equalLifetimes (1500 * ms) (second) = true ∧
    Gen.Trans.equalLifetimes (second) (2 * second) = false := by
  decide

/-! ### 2. regenerated structure of verify.go -/

/-- `verifyRAs` merges exactly these checks in this order, own RA first, and returns the result. -/
theorem gen_merge_order :
    Gen.Verify.merged =
      ["checkRAs", "checkMTUs", "checkPrefixes", "checkRoutes", "checkRDNSS", "checkDNSSL", "checkCaptivePortal"] ∧
    Gen.Verify.mergedArgs =
      ["a, b", "a.Options, b.Options", "a.Options, b.Options", "a.Options, b.Options",
       "a.Options, b.Options", "a.Options, b.Options", "a.Options, b.Options"] ∧
    Gen.Verify.verifyReturnsAccumulator = true ∧ Gen.Verify.verifyOtherStmts = 0 :=
  ⟨rfl, rfl, rfl, rfl⟩

/-- `push` appends one problem built by `newProblem`, `merge` appends all; a problem's
    `Field` / `Details` are the first two arguments of the push (the metric labels). -/
theorem gen_problem_labels :
    Gen.Verify.pushBody = ["*ps = append(*ps, newProblem(field, details, want, got))"] ∧
    Gen.Verify.mergeBody = ["*ps = append(*ps, pss...)"] ∧
    Gen.Verify.newProblemParams = ["field", "details", "want", "got"] ∧
    Gen.Verify.newProblemLabels =
      ["Field: field; Details: details", "Field: field; Details: details", "Field: field; Details: details"] :=
  ⟨rfl, rfl, rfl, rfl⟩

/-- the labels every check function can push, in source order -/
theorem gen_fields :
    Gen.Verify.fieldsByCheck =
      [("checkRAs", ["hop_limit", "managed_configuration", "other_configuration", "reachable_time", "retransmit_timer"]),
       ("checkMTUs", ["mtu"]),
       ("checkPrefixes", ["prefix_information_preferred_lifetime", "prefix_information_valid_lifetime"]),
       ("checkRoutes", ["route_information_lifetime"]),
       ("checkRDNSS", ["rdnss_count", "rdnss_lifetime", "rdnss_servers", "rdnss_servers"]),
       ("checkDNSSL", ["dnssl_count", "dnssl_lifetime", "dnssl_domain_names", "dnssl_domain_names"]),
       ("checkCaptivePortal", ["captive_portal"])] :=
  rfl

theorem gen_fields_each :
    Gen.Verify.checkRAs_fields =
      ["hop_limit", "managed_configuration", "other_configuration", "reachable_time", "retransmit_timer"] ∧
    Gen.Verify.checkMTUs_fields = ["mtu"] ∧
    Gen.Verify.checkPrefixes_fields = ["prefix_information_preferred_lifetime", "prefix_information_valid_lifetime"] ∧
    Gen.Verify.checkRoutes_fields = ["route_information_lifetime"] ∧
    Gen.Verify.checkRDNSS_fields = ["rdnss_count", "rdnss_lifetime", "rdnss_servers", "rdnss_servers"] ∧
    Gen.Verify.checkDNSSL_fields = ["dnssl_count", "dnssl_lifetime", "dnssl_domain_names", "dnssl_domain_names"] ∧
    Gen.Verify.checkCaptivePortal_fields = ["captive_portal"] :=
  ⟨rfl, rfl, rfl, rfl, rfl, rfl, rfl⟩

/-- the details label: empty except for prefixes and routes, which carry CoreRAD's own option -/
theorem gen_details :
    Gen.Verify.checkRAs_details = ["\"\"", "\"\"", "\"\"", "\"\"", "\"\""] ∧
    Gen.Verify.checkMTUs_details = ["\"\""] ∧
    Gen.Verify.checkPrefixes_details = ["prefixStr(a)", "prefixStr(a)"] ∧
    Gen.Verify.checkRoutes_details = ["routeStr(a)"] ∧
    Gen.Verify.checkRDNSS_details = ["\"\"", "\"\"", "\"\"", "\"\""] ∧
    Gen.Verify.checkDNSSL_details = ["\"\"", "\"\"", "\"\"", "\"\""] ∧
    Gen.Verify.checkCaptivePortal_details = ["\"\""] :=
  ⟨rfl, rfl, rfl, rfl, rfl, rfl, rfl⟩

/-- `checkRAs`: the printed condition guarding each push (`Model.checkRAs` mirrors them one by one;
    `time.Millisecond` is the unit `ms` of `not_checkDurations_ms`) -/
theorem gen_checkRAs_guards :
    Gen.Verify.checkRAs_guards =
      ["a.CurrentHopLimit != 0 && b.CurrentHopLimit != 0 && a.CurrentHopLimit != b.CurrentHopLimit",
       "a.ManagedConfiguration != b.ManagedConfiguration",
       "a.OtherConfiguration != b.OtherConfiguration",
       "!checkDurations(a.ReachableTime, b.ReachableTime, time.Millisecond)",
       "!checkDurations(a.RetransmitTimer, b.RetransmitTimer, time.Millisecond)"] :=
  rfl

/-- the other check functions: the printed `if` header directly guarding each push ("" = none:
    the push is reached by falling through the early returns) -/
theorem gen_guards :
    Gen.Verify.checkMTUs_guards = [""] ∧
    Gen.Verify.checkPrefixes_guards =
      ["!equalLifetimes(a.PreferredLifetime, b.PreferredLifetime)", "!equalLifetimes(a.ValidLifetime, b.ValidLifetime)"] ∧
    Gen.Verify.checkRoutes_guards =
      ["a.Preference == b.Preference && !equalLifetimes(a.RouteLifetime, b.RouteLifetime)"] ∧
    Gen.Verify.checkRDNSS_guards =
      ["len(dnsA) != len(dnsB)", "a, b := dnsA[i].Lifetime, dnsB[i].Lifetime; !equalLifetimes(a, b)",
       "len(dnsA[i].Servers) != len(dnsB[i].Servers)", "!equal"] ∧
    Gen.Verify.checkDNSSL_guards =
      ["len(dnsA) != len(dnsB)", "a, b := dnsA[i].Lifetime, dnsB[i].Lifetime; !equalLifetimes(a, b)",
       "len(dnsA[i].DomainNames) != len(dnsB[i].DomainNames)", "!equal"] ∧
    Gen.Verify.checkCaptivePortal_guards = [""] :=
  ⟨rfl, rfl, rfl, rfl, rfl, rfl⟩

/-- `pick` = all options of the type in order (`Model.pickPI` …), `pickFirst` = the first one
    (`Model.firstMTU`, `Model.firstPortal`) -/
theorem gen_pick_skeletons :
    Gen.Verify.pick_skeleton =
      ["var ts []T", "for _, o := range options", ". if t, ok := o.(T); ok", ". . ts = append(ts, t)", "return ts"] ∧
    Gen.Verify.pickFirst_skeleton =
      ["for _, o := range options", ". if t, ok := o.(T); ok", ". . return t, true", "return *new(T), false"] :=
  ⟨rfl, rfl⟩

/-! ### 3. the labels and the model -/

/-- the metric label of a model field (harness table `c12Fields`: label ↦ `Spec.C12.fieldCode`) -/
def label : Field → String
  | .hopLimit => "hop_limit" | .managed => "managed_configuration" | .other => "other_configuration"
  | .reachable => "reachable_time" | .retransmit => "retransmit_timer" | .mtu => "mtu"
  | .piPreferred => "prefix_information_preferred_lifetime" | .piValid => "prefix_information_valid_lifetime"
  | .riLifetime => "route_information_lifetime"
  | .rdnssCount => "rdnss_count" | .rdnssLifetime => "rdnss_lifetime" | .rdnssServers => "rdnss_servers"
  | .dnsslCount => "dnssl_count" | .dnsslLifetime => "dnssl_lifetime" | .dnsslNames => "dnssl_domain_names"
  | .captivePortal => "captive_portal"

/-- the model's enumeration of problem kinds -/
def allFields : List Field :=
  [.hopLimit, .managed, .other, .reachable, .retransmit, .mtu, .piPreferred, .piValid, .riLifetime,
   .rdnssCount, .rdnssLifetime, .rdnssServers, .dnsslCount, .dnsslLifetime, .dnsslNames, .captivePortal]

theorem allFields_complete (f : Field) : f ∈ allFields := by
  cases f <;> decide

/-- `allFields` lists the constructors in the order of the oracle's codes 0 … 15 -/
theorem label_code : allFields.map Spec.C12.fieldCode = List.range 16 := by decide

theorem label_injective (f g : Field) (h : label f = label g) : f = g :=
  inj_of_nodup_map (l := allFields) (by simp [allFields, label]) f (allFields_complete f) g
    (allFields_complete g) h

/-- the fields each model check function can emit (`Model/Verify.lean`, read off the definitions;
    proved below), under the name of the Go check function it models -/
def modelFields : List (String × List Field) :=
  [("checkRAs", [.hopLimit, .managed, .other, .reachable, .retransmit]),
   ("checkMTUs", [.mtu]),
   ("checkPrefixes", [.piPreferred, .piValid]),
   ("checkRoutes", [.riLifetime]),
   ("checkRDNSS", [.rdnssCount, .rdnssLifetime, .rdnssServers]),
   ("checkDNSSL", [.dnsslCount, .dnsslLifetime, .dnsslNames]),
   ("checkCaptivePortal", [.captivePortal])]

theorem gen_fields_label :
    Gen.Verify.fieldsByCheck =
      [("checkRAs", [Field.hopLimit, .managed, .other, .reachable, .retransmit].map label),
       ("checkMTUs", [Field.mtu].map label),
       ("checkPrefixes", [Field.piPreferred, .piValid].map label),
       ("checkRoutes", [Field.riLifetime].map label),
       ("checkRDNSS", [Field.rdnssCount, .rdnssLifetime, .rdnssServers, .rdnssServers].map label),
       ("checkDNSSL", [Field.dnsslCount, .dnsslLifetime, .dnsslNames, .dnsslNames].map label),
       ("checkCaptivePortal", [Field.captivePortal].map label)] :=
  rfl

/- `label` is injective, so below duplicates are removed among the fields (`eraseDups_map`) and the
   closing `rfl` compares fields; `decide` would compare label strings pair by pair, far slower. -/

/-- **Per check function, the set of labels the source can push = the set of labels of the fields
    the model's counterpart can emit**, in the same merge order. -/
theorem gen_fields_model :
    Gen.Verify.fieldsByCheck.map (fun p => (p.1, p.2.eraseDups)) =
      modelFields.map (fun p => (p.1, p.2.map label)) := by
  rw [gen_fields_label]
  simp only [↓List.map_cons, ↓List.map_nil, ↓eraseDups_map label_injective]
  rfl

/-- the model's enumeration of problem kinds, labelled, is exactly the union of the extracted lists -/
theorem gen_fields_union :
    (Gen.Verify.fieldsByCheck.flatMap (·.2)).eraseDups = allFields.map label := by
  rw [gen_fields_label]
  simp only [↓List.flatMap_cons, ↓List.flatMap_nil, ↓← List.map_append, ↓List.append_nil,
    ↓eraseDups_map label_injective]
  rfl

/-! the model emits only the fields listed in `modelFields` (hence only extracted labels) -/

theorem checkRAs_labels (a b : RA) (p : Problem) (hp : p ∈ Model.checkRAs a b) :
    label p.field ∈ Gen.Verify.checkRAs_fields :=
  List.mem_map_of_mem (f := label) (C12.header_fields a b p (C12.checkRAs_eq a b ▸ hp)).1

theorem checkMTUs_labels (want got : List Opt) (p : Problem) (hp : p ∈ Model.checkMTUs want got) :
    label p.field ∈ Gen.Verify.checkMTUs_fields := by
  rw [C12.checkMTUs_eq] at hp
  split at hp
  · rw [List.mem_singleton.mp (List.mem_ite_nil_right.mp hp).2]; exact List.mem_singleton.mpr rfl
  · cases hp

theorem checkCaptivePortal_labels (want got : List Opt) (p : Problem)
    (hp : p ∈ Model.checkCaptivePortal want got) :
    label p.field ∈ Gen.Verify.checkCaptivePortal_fields := by
  rw [C12.checkCaptivePortal_eq] at hp
  split at hp
  · rw [List.mem_singleton.mp (List.mem_ite_nil_right.mp hp).2]; exact List.mem_singleton.mpr rfl
  · cases hp

theorem checkPrefixes_labels (want got : List Opt) (p : Problem) (hp : p ∈ Model.checkPrefixes want got) :
    label p.field ∈ Gen.Verify.checkPrefixes_fields := by
  have : p.field ∈ [Field.piPreferred, .piValid] := by
    rcases (C12.prefix_fields _ _ p (C12.checkPrefixes_eq { options := want } { options := got } ▸ hp)).1
      with h | h <;> rw [h] <;> decide
  exact List.mem_map_of_mem (f := label) this

theorem checkRoutes_labels (want got : List Opt) (p : Problem) (hp : p ∈ Model.checkRoutes want got) :
    label p.field ∈ Gen.Verify.checkRoutes_fields := by
  rw [(C12.route_fields _ _ p (C12.checkRoutes_eq { options := want } { options := got } ▸ hp)).1]
  exact List.mem_singleton.mpr rfl

/-- `checkRDNSS` is `Model.checkDNS` at the three RDNSS fields -/
theorem checkRDNSS_labels (xs ys : List (Dur × List IP)) (p : Problem)
    (hp : p ∈ checkDNS .rdnssCount .rdnssLifetime .rdnssServers xs ys) :
    label p.field ∈ Gen.Verify.checkRDNSS_fields := by
  have : p.field ∈ [Field.rdnssCount, .rdnssLifetime, .rdnssServers, .rdnssServers] := by
    rcases (C12.dns_fields _ _ _ xs ys p (C12.checkDNS_eq _ _ _ xs ys ▸ hp)).1 with h | h | h <;> rw [h] <;> decide
  exact List.mem_map_of_mem (f := label) this

/-- `checkDNSSL` is `Model.checkDNS` at the three DNSSL fields -/
theorem checkDNSSL_labels (xs ys : List (Dur × List Nat)) (p : Problem)
    (hp : p ∈ checkDNS .dnsslCount .dnsslLifetime .dnsslNames xs ys) :
    label p.field ∈ Gen.Verify.checkDNSSL_fields := by
  have : p.field ∈ [Field.dnsslCount, .dnsslLifetime, .dnsslNames, .dnsslNames] := by
    rcases (C12.dns_fields _ _ _ xs ys p (C12.checkDNS_eq _ _ _ xs ys ▸ hp)).1 with h | h | h <;> rw [h] <;> decide
  exact List.mem_map_of_mem (f := label) this

/-- **Every problem the model reports carries a label that some push of the source has.** -/
theorem verifyRAs_labels (a b : RA) (p : Problem) (hp : p ∈ Model.verifyRAs a b) :
    label p.field ∈ Gen.Verify.fieldsByCheck.flatMap (·.2) := by
  show _ ∈ Gen.Verify.checkRAs_fields ++ (Gen.Verify.checkMTUs_fields ++ (Gen.Verify.checkPrefixes_fields ++
    (Gen.Verify.checkRoutes_fields ++ (Gen.Verify.checkRDNSS_fields ++ (Gen.Verify.checkDNSSL_fields ++
    (Gen.Verify.checkCaptivePortal_fields ++ []))))))
  simp only [Model.verifyRAs, List.mem_append] at hp ⊢
  rcases hp with (((((hp | hp) | hp) | hp) | hp) | hp) | hp
  · exact Or.inl (checkRAs_labels a b p hp)
  · exact Or.inr (Or.inl (checkMTUs_labels _ _ p hp))
  · exact Or.inr (Or.inr (Or.inl (checkPrefixes_labels _ _ p hp)))
  · exact Or.inr (Or.inr (Or.inr (Or.inl (checkRoutes_labels _ _ p hp))))
  · exact Or.inr (Or.inr (Or.inr (Or.inr (Or.inl (checkRDNSS_labels _ _ p hp)))))
  · exact Or.inr (Or.inr (Or.inr (Or.inr (Or.inr (Or.inl (checkDNSSL_labels _ _ p hp))))))
  · exact Or.inr (Or.inr (Or.inr (Or.inr (Or.inr (Or.inr (Or.inl (checkCaptivePortal_labels _ _ p hp)))))))

/-! every field (hence every extracted label) is emitted by the model on some pair of RAs -/

private def a6 (n : Nat) : IP := { val := 0x20010db8000000000000000000000000 + n }

/-- own RA / received RA pairs that between them make the model report every field -/
def witnesses : List (RA × RA) :=
  [ -- header: everything differs
    ({ hopLimit := 64, managed := true, other := true, reachable := 2 * second, retransmit := second },
     { hopLimit := 255, managed := false, other := false, reachable := second, retransmit := 2 * second }),
    -- one option of each kind, all different
    ({ options := [.mtu 1500, .pi (a6 0) 64 true true hour (2 * hour), .ri (a6 1) 48 0 hour,
                   .rdnss hour [a6 2], .dnssl hour [1], .captivePortal 1 10] },
     { options := [.mtu 1280, .pi (a6 0) 64 true true (2 * hour) hour, .ri (a6 1) 48 0 (2 * hour),
                   .rdnss (2 * hour) [a6 3], .dnssl (2 * hour) [2], .captivePortal 2 10] }),
    -- different numbers of RDNSS / DNSSL options
    ({ options := [.rdnss hour [a6 2], .dnssl hour [1]] },
     { options := [.rdnss hour [a6 2], .rdnss hour [a6 2], .dnssl hour [1], .dnssl hour [1]] }) ]

theorem every_field_reachable :
    ∀ f ∈ allFields, ∃ w ∈ witnesses, ∃ p ∈ Model.verifyRAs w.1 w.2, p.field = f := by
  decide

/-- **Every label the source can push is reported by the model for some pair of RAs.** -/
theorem every_label_reachable :
    ∀ s ∈ Gen.Verify.fieldsByCheck.flatMap (·.2),
      ∃ a b, ∃ p ∈ Model.verifyRAs a b, label p.field = s := by
  intro s hs
  obtain ⟨f, hf, hl⟩ := List.mem_map.mp (gen_fields_union ▸ List.mem_eraseDups.mpr hs)
  obtain ⟨w, _, p, hp, hpf⟩ := every_field_reachable f hf
  exact ⟨w.1, w.2, p, hp, by rw [hpf, hl]⟩

/-! ### 4. the check functions themselves, regenerated (tools/extract/translate_verify.go)

`checkRAs`, `checkMTUs`, `checkCaptivePortal`, `checkPrefixes` and `checkRoutes` are re-translated from
the current source text into the list of problems they return; each equals the model's function of the
same name — for every pair of RAs / option lists of any length. -/

theorem checkRAs_equiv (a b : RA) : Gen.Trans.checkRAs a b = Model.checkRAs a b := by
  simp [Gen.Trans.checkRAs, Model.checkRAs, checkDurations_equiv, and_assoc]

theorem checkMTUs_equiv (want got : List Opt) : Gen.Trans.checkMTUs want got = Model.checkMTUs want got := by
  unfold Gen.Trans.checkMTUs Model.checkMTUs
  cases firstMTU want <;> cases firstMTU got <;> simp

theorem checkCaptivePortal_equiv (want got : List Opt) :
    Gen.Trans.checkCaptivePortal want got = Model.checkCaptivePortal want got := by
  unfold Gen.Trans.checkCaptivePortal Model.checkCaptivePortal
  cases firstPortal want <;> cases firstPortal got <;> simp

theorem checkPrefixes_equiv (want got : List Opt) :
    Gen.Trans.checkPrefixes want got = Model.checkPrefixes want got := by
  unfold Gen.Trans.checkPrefixes Model.checkPrefixes
  simp only [C12.checkPrefixOuter_eq_flatMap, List.length_eq_zero_iff, ← List.isEmpty_iff, ← Bool.or_eq_true,
    List.append_nil, checkPrefixInner, equalLifetimes_equiv, decide_eq_true_eq, ne_eq]

theorem checkRoutes_equiv (want got : List Opt) :
    Gen.Trans.checkRoutes want got = Model.checkRoutes want got := by
  unfold Gen.Trans.checkRoutes Model.checkRoutes
  simp only [C12.checkRouteOuter_eq_flatMap, List.length_eq_zero_iff, ← List.isEmpty_iff, ← Bool.or_eq_true,
    List.append_nil, checkRouteInner, equalLifetimes_equiv, decide_eq_true_eq, ne_eq]

private theorem dns_equiv {α : Type} [DecidableEq α] (fC fL fI : Field) (dnsA dnsB : List (Dur × List α)) :
    (if (dnsA.length = 0) ∨ (dnsB.length = 0) then [] else
     if dnsA.length ≠ dnsB.length then [({ field := fC } : Problem)] else
     ((List.zip dnsA dnsB).flatMap (fun ab =>
        (if ¬ (Gen.Trans.equalLifetimes ab.1.1 ab.2.1 = true) then [({ field := fL } : Problem)] else []) ++
        if ab.1.2.length ≠ ab.2.2.length then [({ field := fI } : Problem)] else
        (if ¬ (zipAllEq ab.1.2 ab.2.2 = true) then [({ field := fI } : Problem)] else []) ++ [])) ++ [])
      = checkDNS fC fL fI dnsA dnsB := by
  unfold checkDNS
  rw [C12.checkDNSPairs_eq_flatMap]
  simp only [List.length_eq_zero_iff, ← List.isEmpty_iff, ← Bool.or_eq_true, List.append_nil, checkDNSPairs,
    equalLifetimes_equiv, decide_eq_true_eq, ne_eq]
  congr 3; funext ab; congr 1
  split
  · rfl
  · rw [zipAllEq_eq _ _ (by omega)]; simp

theorem checkRDNSS_equiv (want got : List Opt) :
    Gen.Trans.checkRDNSS want got
      = Model.checkDNS .rdnssCount .rdnssLifetime .rdnssServers (pickRDNSS want) (pickRDNSS got) := by
  unfold Gen.Trans.checkRDNSS
  exact dns_equiv _ _ _ _ _

theorem checkDNSSL_equiv (want got : List Opt) :
    Gen.Trans.checkDNSSL want got
      = Model.checkDNS .dnsslCount .dnsslLifetime .dnsslNames (pickDNSSL want) (pickDNSSL got) := by
  unfold Gen.Trans.checkDNSSL
  exact dns_equiv _ _ _ _ _

/-- all seven checks regenerated: `verifyRAs` of the model is the concatenation, in the extracted merge
    order, of the translated functions -/
theorem verifyRAs_regenerated (a b : RA) :
    Model.verifyRAs a b =
      Gen.Trans.checkRAs a b ++ Gen.Trans.checkMTUs a.options b.options ++ Gen.Trans.checkPrefixes a.options b.options ++
      Gen.Trans.checkRoutes a.options b.options ++ Gen.Trans.checkRDNSS a.options b.options ++
      Gen.Trans.checkDNSSL a.options b.options ++ Gen.Trans.checkCaptivePortal a.options b.options := by
  rw [checkRAs_equiv, checkMTUs_equiv, checkPrefixes_equiv, checkRoutes_equiv, checkRDNSS_equiv, checkDNSSL_equiv,
    checkCaptivePortal_equiv]
  rfl

/-- non-trivial instance: one own prefix against the same prefix with a shorter preferred lifetime and
    another prefix — one report, the same on both sides -/
example :
    let own := [Opt.pi ⟨true, false, 1⟩ 64 true true (24 * hour) (4 * hour)]
    let got := [Opt.pi ⟨true, false, 2⟩ 64 true true (24 * hour) (1 * hour), Opt.pi ⟨true, false, 1⟩ 64 true true (24 * hour) (1 * hour)]
    Gen.Trans.checkPrefixes own got = [{ field := .piPreferred, details := some (⟨true, false, 1⟩, 64) }] ∧
    Model.checkPrefixes own got = [{ field := .piPreferred, details := some (⟨true, false, 1⟩, 64) }] := by
  decide

end Corerad.Props.TransC12
