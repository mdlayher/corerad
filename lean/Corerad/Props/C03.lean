/-
  C03 — an accepted configuration yields a wire-encodable, meaning-preserving RA.

  Part 1 (codec, `Model/Codec.lean`): for every wire-safe RA, decoding the encoded RA returns
  the RA with every duration truncated to its field's unit (`roundtrip`), and truncation is
  the only change (`truncate_meaning`).

  Part 2: the RA an accepted advertising stanza calls for (`Spec.C01.expectedRA`, which is the
  RA the model builds by C01 `ra_eq_spec`) is wire safe (`accepted_wireSafe`,
  `accepted_roundtrip`): every option, stanza kind by stanza kind, and the header.

  Hypotheses of Part 2, each shown necessary by a concrete witness at the end of the file:
    * input well-formedness: parsed CIDRs have ≤ 128 bits (C02 `wfIface`) and 128-bit address
      values (`wfVals`; `wfVals_needed`) — both guaranteed by `netip`;
    * the clock does not run before the epoch (`clock_needed`);
    * the hardware address, if any, has 6 bytes;
    * the address dump is well-formed (C14 `WF`), the route dump valid, canonical, 128-bit (`WFr`);
    * an `rdnss` stanza lists at most 127 servers (`count_needed`: the documented constraints
      put no limit on the count);
    * a configured captive portal has a non-empty URI (`portal_len_needed`).
-/
import Corerad.Spec.C03
import Corerad.Model.Codec
import Corerad.Props.C01
import Corerad.Props.C13
import Corerad.Props.C14
import Corerad.Props.C15

namespace Corerad.Props.C03

open Corerad Corerad.Model Corerad.Spec.C03

/-! ### Part 1 — the codec round trip -/

theorem fits_iff (d unit : Dur) (bits : Nat) : fits d unit bits = true ↔ 0 ≤ d ∧ d / unit < 2 ^ bits := by
  simp only [fits, Bool.and_eq_true, decide_eq_true_eq]

theorem wireSafe_iff (ra : RA) :
    wireSafe ra = true ↔
      ra.hopLimit ≤ 255 ∧ (ra.preference == 0 || ra.preference == 1 || ra.preference == 3) = true ∧
      fits ra.routerLifetime second 16 = true ∧ fits ra.reachable ms 32 = true ∧
      fits ra.retransmit ms 32 = true ∧ ∀ o ∈ ra.options, encodable o = true := by
  simp only [wireSafe, Bool.and_eq_true, decide_eq_true_eq, List.all_eq_true, and_assoc]

theorem dur_roundtrip (d unit : Dur) (bits : Nat) (hu : 0 < unit) (h : fits d unit bits = true) :
    decodeDur (encodeDur d unit bits) unit = trunc d unit := by
  obtain ⟨h0, hlt⟩ := (fits_iff d unit bits).mp h
  have hq0 : 0 ≤ d / unit := Int.ediv_nonneg h0 (Int.le_of_lt hu)
  have hlt' : (d / unit).toNat < 2 ^ bits := by
    rw [Int.toNat_lt hq0, Int.natCast_pow]; exact hlt
  unfold decodeDur encodeDur trunc
  rw [Nat.mod_eq_of_lt hlt', Int.toNat_of_nonneg hq0, sub_emod_eq_mul_ediv, Int.mul_comm]

theorem trunc_eq_self_iff (d unit : Dur) : trunc d unit = d ↔ d % unit = 0 := by
  unfold trunc; omega

theorem dur_roundtrip_exact (d unit : Dur) (bits : Nat) (hu : 0 < unit) (h : fits d unit bits = true)
    (hm : d % unit = 0) : decodeDur (encodeDur d unit bits) unit = d :=
  (dur_roundtrip d unit bits hu h).trans ((trunc_eq_self_iff d unit).mpr hm)

theorem opt_roundtrip (o : Opt) (h : encodable o = true) : decodeOpt (encodeOpt o) = truncOpt o := by
  cases o with
  | pi | ri | rdnss | dnssl =>
    -- each lifetime fits its 32-bit field of seconds
    simp only [encodable, Bool.and_eq_true] at h
    simp only [encodeOpt, decodeOpt, truncOpt, dur_roundtrip, second_pos, h]
  | mtu m =>
    simp only [encodable, Bool.and_eq_true, decide_eq_true_eq] at h
    simp only [encodeOpt, decodeOpt, truncOpt, Opt.mtu.injEq]
    have : (2:Int) ^ 32 = 4294967296 := by decide
    have : (2:Nat) ^ 32 = 4294967296 := by decide
    omega
  | lla | captivePortal => rfl
  | pref64 p l =>
    -- the lifetime is a multiple of 8 s and fits 13 bits of that unit
    simp only [encodable, Bool.and_eq_true, decide_eq_true_eq, beq_iff_eq] at h
    have hf : fits l (8 * second) 13 = true := by
      refine (fits_iff ..).mpr ⟨h.1.1.2, ?_⟩
      have : (2:Int) ^ 13 = 8192 := by decide
      omega
    simp only [encodeOpt, decodeOpt, truncOpt, dur_roundtrip_exact _ _ _ sec8_pos hf h.1.2]

/-- **Round trip.**  Decoding the encoding of a wire-safe RA returns its truncation. -/
theorem roundtrip (ra : RA) (h : wireSafe ra = true) : decodeFields (encodeFields ra) = truncateRA ra := by
  obtain ⟨hh, hp, hrl, hre, hrt, hopts⟩ := (wireSafe_iff ra).mp h
  unfold decodeFields encodeFields truncateRA
  simp only [dur_roundtrip _ _ _ second_pos hrl, dur_roundtrip _ _ _ ms_pos hre,
    dur_roundtrip _ _ _ ms_pos hrt, List.map_map]
  have hhl : ra.hopLimit % 2 ^ 8 = ra.hopLimit := Nat.mod_eq_of_lt (by omega)
  have hpr : ra.preference % 2 ^ 2 = ra.preference := by
    simp only [Bool.or_eq_true, beq_iff_eq] at hp
    rcases hp with (hp | hp) | hp <;> rw [hp]
  have hmap : ra.options.map (decodeOpt ∘ encodeOpt) = ra.options.map truncOpt :=
    List.map_congr_left (fun o ho => opt_roundtrip o (hopts o ho))
  rw [hhl, hpr, hmap]

theorem encode_trunc_dur (d unit : Dur) (bits : Nat) (hu : 0 < unit) :
    encodeDur (trunc d unit) unit bits = encodeDur d unit bits := by
  unfold encodeDur trunc
  rw [sub_emod_ediv hu]

/-! #### truncation is the only change -/

theorem trunc_nonneg (d unit : Dur) (hu : 0 < unit) (h0 : 0 ≤ d) : 0 ≤ trunc d unit :=
  sub_emod_nonneg hu h0

theorem trunc_idem (d unit : Dur) (hu : 0 < unit) : trunc (trunc d unit) unit = trunc d unit := by
  rw [trunc_eq_self_iff]; exact (sub_emod_spec d hu).1

/-- **Meaning.**  `truncateRA ra` differs from `ra` only in its duration fields, each of which
    becomes `d - d % unit`: flags, hop limit, preference, the number and order of options,
    and every non-duration component of every option are unchanged. -/
theorem truncate_meaning (ra : RA) :
    (truncateRA ra).hopLimit = ra.hopLimit ∧ (truncateRA ra).managed = ra.managed ∧
    (truncateRA ra).other = ra.other ∧ (truncateRA ra).preference = ra.preference ∧
    (truncateRA ra).routerLifetime = ra.routerLifetime - ra.routerLifetime % second ∧
    (truncateRA ra).reachable = ra.reachable - ra.reachable % ms ∧
    (truncateRA ra).retransmit = ra.retransmit - ra.retransmit % ms ∧
    (truncateRA ra).options.length = ra.options.length ∧
    ∀ k (hk : k < ra.options.length), ∃ o', (truncateRA ra).options[k]? = some o' ∧
      match ra.options[k], o' with
      | .pi a len ol au v p, .pi a' len' ol' au' v' p' =>
        a' = a ∧ len' = len ∧ ol' = ol ∧ au' = au ∧ v' = v - v % second ∧ p' = p - p % second
      | .ri a len pref l, .ri a' len' pref' l' => a' = a ∧ len' = len ∧ pref' = pref ∧ l' = l - l % second
      | .rdnss l s, .rdnss l' s' => l' = l - l % second ∧ s' = s
      | .dnssl l n, .dnssl l' n' => l' = l - l % second ∧ n' = n
      | o, o' => o' = o := by
  refine ⟨rfl, rfl, rfl, rfl, rfl, rfl, rfl, by simp [truncateRA], ?_⟩
  intro k hk
  refine ⟨truncOpt ra.options[k], by simp [truncateRA, hk], ?_⟩
  cases ra.options[k] <;> simp [truncOpt, trunc]

theorem truncOpt_idem (o : Opt) : truncOpt (truncOpt o) = truncOpt o := by
  cases o <;> simp only [truncOpt, trunc_idem _ _ second_pos]

theorem truncateRA_idem (ra : RA) : truncateRA (truncateRA ra) = truncateRA ra := by
  simp only [truncateRA, trunc_idem _ _ second_pos, trunc_idem _ _ ms_pos, List.map_map]
  congr 1
  exact List.map_congr_left fun o _ => truncOpt_idem o

/-- the wire image of an RA is determined by its truncation: no sub-unit information is sent -/
theorem encode_truncate (ra : RA) : encodeFields (truncateRA ra) = encodeFields ra := by
  unfold encodeFields truncateRA
  simp only [encode_trunc_dur _ _ _ second_pos, encode_trunc_dur _ _ _ ms_pos, List.map_map]
  congr 1
  apply List.map_congr_left
  intro o _
  cases o <;> simp only [Function.comp, truncOpt, encodeOpt, encode_trunc_dur _ _ _ second_pos]

open Corerad.Spec.C02 (docPrefix docRoute docRDNSS docDNSSL docPref64 pfxOf resolve inPos)
open Corerad.Props.C02 (wfPfx)

/-! ### Part 2 — accepted configurations are wire safe -/

theorem canonical_of_masked (q : Prefix) (h6 : q.addr.is6 = true) (hm : q.masked = q) (hb : q.bits ≤ 128)
    (hv : q.addr.val < 2 ^ 128) : canonical6 q.addr q.bits = true := by
  unfold canonical6
  simp [h6, hb, Prefix.maskVal_of_masked h6 hm, hv]

theorem fits_sec32 (d : Dur) (h0 : 0 ≤ d) (h : d ≤ Spec.C02.maxLifetime) : fits d second 32 = true := by
  refine (fits_iff ..).mpr ⟨h0, ?_⟩
  unfold Spec.C02.maxLifetime second at *
  omega

theorem fits_lifetimeNow (dep : Bool) (sys : SysState) (l : Dur) (hclock : sys.epoch ≤ sys.now)
    (h : inPos l = true) : fits (Spec.C01.lifetimeNow dep sys l) second 32 = true := by
  obtain ⟨hp, hm⟩ := (Props.C02.inPos_iff l).mp h
  have hb : 0 ≤ Spec.C01.lifetimeNow dep sys l ∧ Spec.C01.lifetimeNow dep sys l ≤ l := by
    unfold Spec.C01.lifetimeNow
    cases dep <;> simp <;> omega
  exact fits_sec32 _ hb.1 (Int.le_trans hb.2 hm)

theorem inNonneg_bounds (d : Dur) (h : Spec.C02.inNonneg d = true) : 0 ≤ d ∧ d ≤ Spec.C02.maxLifetime := by
  unfold Spec.C02.inNonneg at h
  simpa using h

/-! #### stanzas with a wildcard form -/

/-- every option such a stanza yields satisfies `P` if its static option does and every option of
    the wildcard's expansion does -/
theorem forall_mem_wildOr {α : Type} {P : Opt → Prop} {w : Bool} {src : Option α} {f : α → List Opt}
    {static l : List Opt} (h : (if w then src.map f else some static) = some l)
    (hs : w = false → ∀ o ∈ static, P o) (hw : w = true → ∀ a, src = some a → ∀ o ∈ f a, P o) :
    ∀ o ∈ l, P o := by
  cases w with
  | false => cases h; exact hs rfl
  | true =>
    obtain ⟨a, ha, rfl⟩ := Option.map_eq_some_iff.mp h
    exact hw rfl a ha

/-- value well-formedness of a successfully parsed CIDR: `netip` addresses are 128-bit values -/
def wfVal : PfxStr → Prop
  | .ok p => p.addr.val < 2 ^ 128
  | _ => True

/-- well-formed route dump: valid, canonical prefixes (C15's `WF`) with 128-bit values -/
def WFr (rs : List Prefix) : Prop := Props.C15.WF rs ∧ ∀ r ∈ rs, r.addr.val < 2 ^ 128

theorem wild_prefix_canonical (as : List SysIP) (hwf : Props.C14.WF as) (x : Prefix)
    (hx : x ∈ currentPrefixes 64 as) : canonical6 x.addr x.bits = true := by
  obtain ⟨h6, hb⟩ := Props.C13.mem_shape hx
  obtain ⟨a, ha, -, rfl⟩ := (Props.C13.mem_iff 64 as x).mp hx
  exact canonical_of_masked _ h6 (Prefix.masked_idem _) (by omega)
    (Nat.lt_of_le_of_lt (Prefix.maskVal_le _ _ _) (hwf a ha).2)

theorem static_canonical {wild q : Prefix} {s : PfxStr} (hq : pfxOf wild s = some q) (hw : (q == wild) = false)
    (hwf : wfPfx s = true) (hval : wfVal s) : canonical6 q.addr q.bits = true := by
  rcases (Props.C02.pfxOf_eq_some_iff wild s q).mp hq with ⟨-, rfl⟩ | ⟨rfl, hc⟩
  · simp at hw
  · simp only [Spec.C02.canonical6, Bool.and_eq_true, beq_iff_eq] at hc
    exact canonical_of_masked q hc.1.2 hc.1.1 (of_decide_eq_true hwf) hval

theorem prefix_opts_encodable (sys : SysState) (p : RawPrefix) (hdoc : docPrefix p = true)
    (hwf : wfPfx p.pstr = true) (hval : wfVal p.pstr) (hclock : sys.epoch ≤ sys.now)
    (haddrs : ∀ as, sys.addrs = some as → Props.C14.WF as)
    (l : List Opt) (h : Spec.C01.prefixOpts sys p = some l) : ∀ o ∈ l, encodable o = true := by
  obtain ⟨q, v, pr, hq, hv, hpr, -, -, hvp, hprp, -⟩ := Props.C02.docPrefix_parts p hdoc
  have hfv := fits_lifetimeNow p.deprecated sys v hclock hvp
  have hfp := fits_lifetimeNow p.deprecated sys pr hclock hprp
  simp only [Spec.C01.prefixOpts, hq, hv, hpr, Option.getD_some] at h
  refine forall_mem_wildOr h (fun hw o ho => ?_) (fun _ as hs o ho => ?_)
  · obtain rfl := List.mem_singleton.mp ho
    simp only [encodable, Bool.and_eq_true]
    exact ⟨⟨static_canonical hq hw hwf hval, hfv⟩, hfp⟩
  · obtain ⟨x, hx, rfl⟩ := List.mem_map.mp ho
    simp only [encodable, Bool.and_eq_true]
    exact ⟨⟨wild_prefix_canonical as (haddrs as hs) x hx, hfv⟩, hfp⟩

/-! #### routes -/

theorem wild_route_canonical (rs : List Prefix) (hwf : WFr rs) (x : Prefix)
    (hx : x ∈ currentRoutes rs) : canonical6 x.addr x.bits = true := by
  obtain ⟨hmem, h6, hv, hm, -⟩ := Props.C15.wanted_shape rs x hwf.1 hx
  exact canonical_of_masked x h6 hm (of_decide_eq_true (Props.C02.wfPfx_of_isValid x hv)) (hwf.2 x hmem)

theorem route_opts_encodable (sys : SysState) (r : RawRoute) (hdoc : docRoute r = true)
    (hwf : wfPfx r.pstr = true) (hval : wfVal r.pstr) (hclock : sys.epoch ≤ sys.now)
    (hroutes : ∀ rs, sys.routes = some rs → WFr rs)
    (l : List Opt) (h : Spec.C01.routeOpts sys r = some l) : ∀ o ∈ l, encodable o = true := by
  obtain ⟨q, lt, pc, hq, hl, hpc, -, hlp, -⟩ := Props.C02.docRoute_parts r hdoc
  have hfl := fits_lifetimeNow r.deprecated sys lt hclock hlp
  have hpref := Props.C02.prefCode_wire _ _ hpc
  simp only [Spec.C01.routeOpts, hq, hl, hpc, Option.getD_some] at h
  refine forall_mem_wildOr h (fun hw o ho => ?_) (fun _ rs hs o ho => ?_)
  · obtain rfl := List.mem_singleton.mp ho
    simp only [encodable, Bool.and_eq_true]
    exact ⟨⟨static_canonical hq hw hwf hval, hpref⟩, hfl⟩
  · obtain ⟨x, hx, rfl⟩ := List.mem_map.mp ho
    simp only [encodable, Bool.and_eq_true]
    exact ⟨⟨wild_route_canonical rs (hroutes rs hs) x hx, hpref⟩, hfl⟩

/-! #### RDNSS -/

theorem serverOk_is6 (s : AddrStr) (h : Spec.C02.serverOk s = true) : (Spec.C02.serverAddr s).is6 = true := by
  cases s with
  | bad => cases h
  | ok a => simp only [Spec.C02.serverOk, Bool.and_eq_true] at h; exact h.1

theorem wild_rdnss_is6 (as : List SysIP) (hwf : Props.C14.WF as) (ip : IP) (h : currentRDNSS as = some ip) :
    ip.is6 = true := by
  obtain ⟨a, ha, he, rfl, _⟩ := (Props.C14.some_iff as hwf ip).mp h
  unfold Spec.C14.eligible at he
  simp only [Bool.and_eq_true, Bool.not_eq_true'] at he
  exact IP.is6_of_not_is4 (Prefix.valid_of_isValid (hwf a ha).1) he.1.1.1

theorem sortedServers_is6 (maxI : Dur) (d : RawRDNSS) (hdoc : docRDNSS maxI d = true) :
    ∀ x ∈ Props.C01.sortedServers d, x.is6 = true := by
  obtain ⟨-, -, -, hok, -⟩ := Props.C02.docRDNSS_parts maxI d hdoc
  intro x hx
  rw [Props.C01.sortedServers, Props.C02.staticServers, mem_sortBy, List.mem_filter, List.mem_map] at hx
  obtain ⟨⟨s, hs, rfl⟩, _⟩ := hx
  exact serverOk_is6 s (List.all_eq_true.mp hok s hs)

theorem rdnss_opts_encodable (sys : SysState) (maxI : Dur) (d : RawRDNSS) (hdoc : docRDNSS maxI d = true)
    (hcount : d.servers.length ≤ 127) (haddrs : ∀ as, sys.addrs = some as → Props.C14.WF as)
    (l : List Opt) (h : Spec.C01.rdnssOpts sys maxI d = some l) : ∀ o ∈ l, encodable o = true := by
  obtain ⟨lt, hl, hlp, -⟩ := Props.C02.docRDNSS_parts maxI d hdoc
  have hfl := fits_sec32 lt (inNonneg_bounds lt hlp).1 (inNonneg_bounds lt hlp).2
  have h6 := List.all_eq_true.mpr (sortedServers_is6 maxI d hdoc)
  rw [Props.C01.rdnssOpts_eq, hl, Option.getD_some] at h
  refine forall_mem_wildOr h (fun hw o ho => ?_) (fun hw ip hip o ho => ?_) <;>
    obtain rfl := List.mem_singleton.mp ho
  · obtain ⟨hne, hlen⟩ := (Props.C01.sortedServers_length d).1 hw
    have hne' : Props.C01.sortedServers d ≠ [] :=
      fun he => hne (List.length_eq_zero_iff.mp (hlen ▸ congrArg _ he))
    simp only [encodable, Bool.and_eq_true, Bool.not_eq_true', List.isEmpty_eq_false_iff, decide_eq_true_eq]
    exact ⟨⟨⟨hne', by omega⟩, h6⟩, hfl⟩
  · obtain ⟨as, has, hc⟩ := Option.bind_eq_some_iff.mp hip
    have hlen := (Props.C01.sortedServers_length d).2 hw
    simp only [encodable, Bool.and_eq_true, List.isEmpty_cons, Bool.not_false, List.length_cons,
      decide_eq_true_eq, List.all_cons, true_and]
    exact ⟨⟨by omega, wild_rdnss_is6 as (haddrs as has) ip hc, h6⟩, hfl⟩

/-! #### DNSSL, PREF64 -/

theorem dnssl_opt_encodable (maxI : Dur) (d : RawDNSSL) (hdoc : docDNSSL maxI d = true) :
    encodable (Opt.dnssl ((resolve d.lifetime (3 * maxI)).getD 0) d.names) = true := by
  obtain ⟨l, hl, hlp, hne, hne0, -⟩ := Props.C02.docDNSSL_parts maxI d hdoc
  simp only [hl, Option.getD_some, encodable, Bool.and_eq_true]
  exact ⟨⟨hne, hne0⟩, fits_sec32 l (inNonneg_bounds l hlp).1 (inNonneg_bounds l hlp).2⟩

theorem nat64Len_eq (b : Nat) : Spec.C03.nat64Len b = Spec.C02.nat64Len b := rfl

theorem pref64Of_canonical (p : RawPref64) (q : Prefix) (h : Spec.C02.pref64Of p = some q) :
    Spec.C02.canonical6 q = true := by
  have hw : Spec.C02.canonical6 Spec.C02.wellKnown64 = true := by decide
  unfold Spec.C02.pref64Of at h
  split at h
  · cases h; exact hw
  · cases h; exact hw
  · cases h; exact hw
  · cases h
  · split at h
    · cases h; assumption
    · cases h

theorem pref64_opt_encodable (maxI : Dur) (p : RawPref64) (hdoc : docPref64 p = true)
    (h4 : 4 * second ≤ maxI) (h1800 : maxI ≤ 1800 * second) :
    encodable (Opt.pref64 ((Spec.C02.pref64Of p).getD Spec.C02.wellKnown64) (Spec.C02.pref64Lifetime maxI)) = true := by
  obtain ⟨hmod, hlo, hhi⟩ := Props.C01.ceil8s_spec (3 * maxI)
  rw [← Props.C01.pref64Lifetime_eq_ceil8s maxI (Props.C01.below_cap h1800)] at hmod hlo hhi
  have hlt : 0 ≤ Spec.C02.pref64Lifetime maxI ∧ Spec.C02.pref64Lifetime maxI / (8 * second) ≤ 8191 := by
    unfold second at *; omega
  unfold docPref64 at hdoc
  split at hdoc
  · cases hdoc
  · rename_i q hq
    have hc := pref64Of_canonical p q hq
    simp only [Spec.C02.canonical6, Bool.and_eq_true, beq_iff_eq, Bool.not_eq_true'] at hc
    simp only [hq, Option.getD_some, encodable, Bool.and_eq_true, decide_eq_true_eq, beq_iff_eq, Bool.not_eq_true',
      nat64Len_eq]
    exact ⟨⟨⟨⟨⟨⟨hc.1.2, hc.2⟩, hdoc⟩, hc.1.1⟩, hlt.1⟩, hmod⟩, hlt.2⟩

/-! #### the header -/

theorem plainDur_within (s : DurStr) (h : Spec.C02.within 0 hour (Spec.C02.plainDur s 0) = true) :
    fits ((Spec.C02.plainDur s 0).getD 0) ms 32 = true := by
  simp only [Props.C02.within_eq, Bool.and_eq_true, decide_eq_true_eq] at h
  refine (fits_iff ..).mpr ⟨h.2.1, ?_⟩
  have := h.2.2
  unfold hour second at this
  unfold ms
  omega

theorem lifetimeOf_fits (s : DurStr) (maxI : Dur) (h4 : 4 * second ≤ maxI) :
    fits ((Spec.C02.lifetimeOf s maxI).getD 0) second 16 = true := by
  obtain ⟨h0, h9000⟩ := Props.C01.lifetimeOf_bounds s maxI (by unfold second at h4; omega)
  refine (fits_iff ..).mpr ⟨h0, ?_⟩
  have : (2:Int) ^ 16 = 65536 := by decide
  unfold second at *
  omega

theorem header_wireSafe (i : RawInterface) (maxI : Dur) (fw : Bool) (h4 : 4 * second ≤ maxI)
    (hsc : Props.C02.docScalars i maxI = true) :
    (i.hopLimit.getD 64).toNat ≤ 255 ∧
    (((Spec.C02.prefCode i.preference).getD 0 == 0 || (Spec.C02.prefCode i.preference).getD 0 == 1 ||
      (Spec.C02.prefCode i.preference).getD 0 == 3) = true) ∧
    fits (if fw then (Spec.C02.lifetimeOf i.defaultLifetime maxI).getD 0 else 0) second 16 = true ∧
    fits ((Spec.C02.plainDur i.reachable 0).getD 0) ms 32 = true ∧
    fits ((Spec.C02.plainDur i.retransmit 0).getD 0) ms 32 = true := by
  obtain ⟨-, -, -, hre, hrt, hhop, -, hpc⟩ := (Props.C02.docScalars_iff i maxI).mp hsc
  refine ⟨by omega, ?_, ?_, plainDur_within _ hre, plainDur_within _ hrt⟩
  · obtain ⟨pc, hp⟩ := Option.isSome_iff_exists.mp hpc
    rw [hp]; exact Props.C02.prefCode_wire _ _ hp
  · cases fw
    · exact (by decide : fits 0 second 16 = true)
    · exact lifetimeOf_fits _ _ h4

/-! #### assembly -/

/-- input well-formedness beyond C02's `wfIface`: the addresses of successfully parsed
    `prefix`/`route` CIDRs are 128-bit values (as every `netip.Addr` is) -/
def wfVals (i : RawInterface) : Prop :=
  (∀ p ∈ i.prefixes, wfVal p.pstr) ∧ (∀ r ∈ i.routes, wfVal r.pstr)

theorem options_encodable (i : RawInterface) (sys : SysState) (maxI : Dur)
    (hwf : Props.C02.wfIface i = true) (hvals : wfVals i)
    (h4 : 4 * second ≤ maxI) (h1800 : maxI ≤ 1800 * second) (hpl : Props.C02.docPlugins i maxI = true)
    (hclock : sys.epoch ≤ sys.now) (hmac : ∀ l m, sys.mac = some (l, m) → l = 6)
    (haddrs : ∀ as, sys.addrs = some as → Props.C14.WF as)
    (hroutes : ∀ rs, sys.routes = some rs → WFr rs)
    (hcount : ∀ d ∈ i.rdnss, d.servers.length ≤ 127)
    (hportal : ∀ u l, i.captivePortal = .ok u l → 1 ≤ l)
    (opts : List Opt) (h : Spec.C01.expectedOptions i sys maxI = some opts) :
    ∀ o ∈ opts, encodable o = true := by
  obtain ⟨hwp, hwr⟩ := (Props.C02.wfIface_iff i).mp hwf
  obtain ⟨hdp, -, hdr, -, hdd, hds, hm0, hm1, hcp, hd64⟩ := (Props.C02.docPlugins_iff i maxI).mp hpl
  intro o ho
  -- the option comes from one plugin of the resolved list, which is one of eight kinds
  rw [← Props.C01.options_eq_spec] at h
  obtain ⟨p, hp, l, hl, hol⟩ := mem_applyAll h ho
  rcases (Props.C01.mem_expPlugins i maxI p).mp hp with ⟨x, hx, rfl⟩ | ⟨x, hx, rfl⟩ | ⟨x, hx, rfl⟩ | ⟨x, hx, rfl⟩ |
    ⟨-, rfl⟩ | ⟨-, rfl⟩ | ⟨u, len, hc, rfl⟩ | ⟨x, hx, rfl⟩
  · exact prefix_opts_encodable sys x (hdp x hx) (hwp x hx) (hvals.1 x hx) hclock haddrs l
      (Props.C01.prefix_apply sys x ▸ hl) o hol
  · exact route_opts_encodable sys x (hdr x hx) (hwr x hx) (hvals.2 x hx) hclock hroutes l
      (Props.C01.route_apply sys x ▸ hl) o hol
  · exact rdnss_opts_encodable sys maxI x (hdd x hx) (hcount x hx) haddrs l (Props.C01.rdnss_apply sys maxI x ▸ hl) o hol
  · cases hl; cases List.mem_singleton.mp hol
    exact dnssl_opt_encodable maxI x (hds x hx)
  · cases hl; cases List.mem_singleton.mp hol
    simp only [encodable, Bool.and_eq_true, decide_eq_true_eq]
    have : (2:Int) ^ 32 = 4294967296 := by decide
    omega
  · rw [Props.C01.lla_apply] at hl
    cases hl
    split at hol
    · cases hol
    · rename_i len mac hmc
      cases List.mem_singleton.mp hol
      exact beq_iff_eq.mpr (hmac len mac hmc)
  · cases hl; cases List.mem_singleton.mp hol
    rw [hc] at hcp
    simp only [encodable, Bool.and_eq_true, decide_eq_true_eq]
    exact ⟨hportal u len hc, of_decide_eq_true hcp⟩
  · cases hl; cases List.mem_singleton.mp hol
    exact pref64_opt_encodable maxI x (hd64 x hx) h4 h1800

/-- **Accepted ⇒ wire safe.**  The RA an accepted advertising stanza calls for — in every
    system state with a non-decreasing clock, a 6-byte hardware address (if any) and well-formed
    address/route dumps, with forwarding on or off — has every duration within its field's
    range and every option encodable. -/
theorem accepted_wireSafe (i : RawInterface) (sys : SysState) (fw : Bool)
    (hwf : Props.C02.wfIface i = true) (hvals : wfVals i)
    (hdoc : Spec.C02.docInterface i = true) (hadv : i.monitor = false)
    (hclock : sys.epoch ≤ sys.now) (hmac : ∀ l m, sys.mac = some (l, m) → l = 6)
    (haddrs : ∀ as, sys.addrs = some as → Props.C14.WF as)
    (hroutes : ∀ rs, sys.routes = some rs → WFr rs)
    (hcount : ∀ d ∈ i.rdnss, d.servers.length ≤ 127)
    (hportal : ∀ u l, i.captivePortal = .ok u l → 1 ≤ l)
    (ra : RA) (h : Spec.C01.expectedRA i sys fw = some ra) : wireSafe ra = true := by
  obtain ⟨maxI, hm, h4, h1800, hsc, hpl⟩ := Props.C02.docInterface_adv i hdoc hadv
  unfold Spec.C01.expectedRA at h
  simp only [hm, Option.getD_some] at h
  cases ho : Spec.C01.expectedOptions i sys maxI with
  | none => rw [ho] at h; cases h
  | some opts =>
    rw [ho] at h
    simp only [Option.map_some, Option.some.injEq] at h
    subst h
    obtain ⟨hh, hp, hrl, hre, hrt⟩ := header_wireSafe i maxI fw h4 hsc
    have hopts := options_encodable i sys maxI hwf hvals h4 h1800 hpl hclock hmac haddrs hroutes hcount hportal opts ho
    exact (wireSafe_iff _).mpr ⟨hh, hp, hrl, hre, hrt, hopts⟩

/-- the source only appends the option for a 48-bit hardware address (regenerated from
    `(*LLA).Apply`; fails to build on a tree without that test) -/
theorem gen_lla_requires_ethernet : Gen.Plugin.llaRequiresEthernet = true := rfl

/-- `accepted_wireSafe` for an interface with **any** hardware address (none, 48-bit, or another
    length), once the `source_lla` plugin only uses a 48-bit one (`normSys true`, the repair of F-19):
    the hypothesis on the hardware address is discharged, not assumed. -/
theorem accepted_wireSafe_any_hw (i : RawInterface) (sys : SysState) (fw : Bool)
    (hwf : Props.C02.wfIface i = true) (hvals : wfVals i)
    (hdoc : Spec.C02.docInterface i = true) (hadv : i.monitor = false)
    (hclock : sys.epoch ≤ sys.now)
    (haddrs : ∀ as, sys.addrs = some as → Props.C14.WF as)
    (hroutes : ∀ rs, sys.routes = some rs → WFr rs)
    (hcount : ∀ d ∈ i.rdnss, d.servers.length ≤ 127)
    (hportal : ∀ u l, i.captivePortal = .ok u l → 1 ≤ l)
    (ra : RA) (h : Spec.C01.expectedRA i (normSys true sys) fw = some ra) : wireSafe ra = true := by
  exact accepted_wireSafe i (normSys true sys) fw hwf hvals hdoc hadv hclock (fun _ _ => normSys_mac_len)
    haddrs hroutes hcount hportal ra h

/-- the pinned source's treatment: a 20-byte hardware address yields an option no RA can carry -/
example : wireSafe ({ hopLimit := 64, routerLifetime := 1800 * second, options := [Opt.lla 20 4660] } : RA) = false := by
  decide

/-- parse, build, encode, decode: whatever the parser accepts yields an RA whose decoded wire
    image is the RA itself with every duration truncated to its field's unit -/
theorem accepted_roundtrip (n : Nat) (i : RawInterface) (sys : SysState) (fw : Bool)
    (hwf : Props.C02.wfIface i = true) (hvals : wfVals i) (hadv : i.monitor = false)
    (hclock : sys.epoch ≤ sys.now) (hmac : ∀ l m, sys.mac = some (l, m) → l = 6)
    (haddrs : ∀ as, sys.addrs = some as → Props.C14.WF as)
    (hroutes : ∀ rs, sys.routes = some rs → WFr rs)
    (hcount : ∀ d ∈ i.rdnss, d.servers.length ≤ 127)
    (hportal : ∀ u l, i.captivePortal = .ok u l → 1 ≤ l)
    (ifi : Interface) (hparse : parseInterface n i = some ifi)
    (ra : RA) (mis : Bool) (h : routerAdvertisement ifi sys fw = some (ra, mis)) :
    wireSafe ra = true ∧ decodeFields (encodeFields ra) = truncateRA ra := by
  obtain ⟨hd, rfl⟩ := Props.C02.parsed n i hwf ifi hparse
  have hs := accepted_wireSafe i sys fw hwf hvals hd hadv hclock hmac haddrs hroutes hcount hportal ra
    (by rw [← Props.C01.build_eq_spec n i sys fw hd hadv, h]; rfl)
  exact ⟨hs, roundtrip ra hs⟩

/-- The model (with the field-level codec) meets the oracle that the check evaluates on the
    implementation's output. -/
theorem holds_model (ra : RA) (h : wireSafe ra = true) :
    Spec.C03.holds "ok" (some ra) "wire" (some (decodeFields (encodeFields ra))) = (true, "") := by
  unfold Spec.C03.holds
  rw [roundtrip ra h]
  simp only [h, Bool.not_true, Bool.false_eq_true, if_false, beq_self_eq_true, if_true]
  decide

/-! ### non-vacuity and the necessity of the hypotheses -/

open Corerad.Props.C01 (exIface exSys exRA ex_expected)

/-- every hypothesis of `accepted_wireSafe` is satisfiable at once, and the theorem then yields
    wire safety of a 10-option RA; its decoded wire image truncates the two sub-second
    lifetimes (2999.999999996 s → 2999 s, 1199.999999995 s → 1199 s) and nothing else -/
example : wireSafe exRA = true ∧
    decodeFields (encodeFields exRA) =
      { exRA with options := (exRA.options.set 1
          (.pi { val := 0x20010db8000000010000000000000000 } 64 true false (2999 * second) (1199 * second))) } := by
  have hs : wireSafe exRA = true := by
    apply accepted_wireSafe exIface exSys true (by decide) ?_ (by decide +kernel) rfl (by decide) ?_ ?_ ?_ ?_ ?_ exRA
      ex_expected
    · refine ⟨?_, ?_⟩ <;> intro p hp <;> simp only [exIface, List.mem_cons, List.not_mem_nil, or_false] at hp <;>
        rcases hp with rfl | rfl <;> simp [wfVal]
    · intro l m h; simp only [exSys, Option.some.injEq, Prod.mk.injEq] at h; exact h.1.symm
    · intro as h
      simp only [exSys, Option.some.injEq] at h
      subst h
      intro a ha
      simp only [List.mem_cons, List.not_mem_nil, or_false] at ha
      rcases ha with rfl | rfl <;> exact ⟨by decide, by decide⟩
    · intro rs h
      simp only [exSys, Option.some.injEq] at h
      subst h
      refine ⟨?_, ?_⟩ <;> intro r hr <;> simp only [List.mem_cons, List.not_mem_nil, or_false] at hr <;> subst hr
      · exact ⟨by decide, by decide⟩
      · decide
    · intro d hd
      simp only [exIface, List.mem_cons, List.not_mem_nil, or_false] at hd
      subst hd; decide
    · intro u l h
      simp only [exIface, CPStr.ok.injEq] at h
      omega
  exact ⟨hs, by rw [roundtrip exRA hs]; decide +kernel⟩

/-- `hportal` is necessary: the documented constraints (and the parser) accept a captive
    portal whose recorded length is 0, which no wire-safe RA can carry.  (`ndp.NewCaptivePortal`
    never returns an empty URI for a non-empty string, so the raw value cannot occur.) -/
theorem portal_len_needed :
    Spec.C02.portalOk (.ok 9 0) = true ∧ encodable (.captivePortal 9 0) = false := by decide

/-- `wfVals` is necessary: a value of 2^128 passes the documented canonical-prefix test (it is
    its own /64 mask) but is not a 128-bit address.  (`netip.Addr` cannot hold it.) -/
theorem wfVals_needed :
    let q : Prefix := { addr := { val := 2 ^ 128 }, bits := 64 }
    Spec.C02.docPrefix { pstr := .ok q } = true ∧ wfPfx (.ok q) = true ∧
    canonical6 q.addr q.bits = false := by decide +kernel

/-- `hclock` is necessary: with the clock *before* the epoch, a deprecated lifetime exceeds its
    configured value and may leave the 32-bit range -/
theorem clock_needed :
    let p : RawPrefix := { pstr := .ok { addr := { val := 0x20010db8000000010000000000000000 }, bits := 64 },
                           valid := .lit (4294967294 * second), preferred := .lit second, deprecated := true }
    Spec.C02.docPrefix p = true ∧
    (Spec.C01.prefixOpts { epoch := 10 * second, now := 0 } p).map (·.all encodable) = some false := by
  decide +kernel

/-- `hcount` is necessary: 128 distinct static servers are documented (no limit is) but do not
    fit one RDNSS option's 8-bit length -/
theorem count_needed :
    let d : RawRDNSS := { servers := (List.range 128).map fun k => .ok { val := 0x20010db8000000000000000000000001 + k } }
    Spec.C02.docRDNSS (600 * second) d = true ∧
    (Spec.C01.rdnssOpts {} (600 * second) d).map (·.all encodable) = some false := by
  intro d
  refine ⟨?_, by decide +kernel⟩
  -- The servers are distinct because `k ↦ base + k` is injective; evaluating the duplicate test
  -- itself would compare 8128 pairs of addresses.
  have hs : (d.servers.map Spec.C02.serverAddr).filter (fun a => !a.isUnspecified) =
      (List.range 128).map fun k => ({ val := 0x20010db8000000000000000000000001 + k } : IP) := by decide +kernel
  have hnd : Spec.C02.nodupIP ((d.servers.map Spec.C02.serverAddr).filter (fun a => !a.isUnspecified)) = true := by
    rw [hs, Props.C02.nodupIP_iff]
    exact List.nodup_range.map _ fun a b hab h => hab (by injection h with _ _ h; omega)
  have hrest : (Spec.C02.inNonneg (3 * (600 * second)) && d.servers.all Spec.C02.serverOk &&
      decide (((d.servers.map Spec.C02.serverAddr).filter (·.isUnspecified)).length ≤ 1)) = true := by decide +kernel
  have hdoc : Spec.C02.docRDNSS (600 * second) d =
      (Spec.C02.inNonneg (3 * (600 * second)) && d.servers.all Spec.C02.serverOk &&
        decide (((d.servers.map Spec.C02.serverAddr).filter (·.isUnspecified)).length ≤ 1) &&
        Spec.C02.nodupIP ((d.servers.map Spec.C02.serverAddr).filter (fun a => !a.isUnspecified))) := rfl
  rw [hdoc, hnd, hrest]
  rfl

end Corerad.Props.C03
