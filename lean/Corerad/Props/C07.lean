/-
  C07 — each valid RS is answered exactly once, to the right destination, in time.
  Theorems over every request history of any length, any jitter draws.
-/
import Corerad.Lemmas.Advertiser
import Corerad.Lemmas.Scheduler
import Corerad.Spec.C07

namespace Corerad.Props.C07

open Corerad Corerad.Model

/-- MAX_RA_DELAY_TIME as found in the source -/
theorem gen_constants : Gen.Advertise.maxRADelay = 500 * ms := by decide

/-- the unicast requests of a history paired with their jitter draws, in arrival order -/
def ucExpected : List (Time × Req) → List Int → List (Time × Nat × Int)
  | [], _ => []
  | (_, .mc) :: r, ds => ucExpected r ds
  | (t, .uc h) :: r, ds => (t, h, ds.headD 0) :: ucExpected r ds.tail

/-- **Exactly once, to the right destination**: the unicast transmissions the scheduler makes
    are, in order, one per unicast request — to that request's source, due at its arrival
    instant plus its own jitter draw.  Nothing is lost, nothing is answered twice, whatever
    multicast traffic is interleaved and whatever mode the interface is in. -/
theorem unicast_exactly_once (minDelay : Dur) (uo : Bool) :
    ∀ (reqs : List (Time × Req)) (s : SchedState) (draws : List Int),
      ucSends (schedule minDelay uo s reqs draws) = (ucExpected reqs draws).map fun x => (x.1 + x.2.2, x.2.1)
  | [], _, _ => rfl
  | (t, .uc h) :: rest, s, draws => by
    rw [ucSends_schedule_uc, ucExpected, List.map_cons, unicast_exactly_once minDelay uo rest s draws.tail]
  | (t, .mc) :: rest, s, draws => by
    obtain ⟨s', hs'⟩ := ucSends_schedule_mc minDelay uo s t rest draws
    rw [hs', ucExpected, unicast_exactly_once minDelay uo rest s' draws]

/-- one answer per solicitation: as many unicast transmissions as unicast requests -/
theorem unicast_count (minDelay : Dur) (uo : Bool) (reqs : List (Time × Req)) (s : SchedState) (draws : List Int) :
    (ucSends (schedule minDelay uo s reqs draws)).length =
      (reqs.filter fun r => match r.2 with | .uc _ => true | .mc => false).length := by
  rw [unicast_exactly_once, List.length_map]
  induction reqs generalizing draws with
  | nil => rfl
  | cons r rest ih =>
    obtain ⟨t, q⟩ := r
    cases q with
    | mc => simpa [ucExpected] using ih draws
    | uc h => simpa [ucExpected] using ih draws.tail

/-- **In time**: when every draw is in `[0, MAX_RA_DELAY_TIME)` (what `Int63n` returns) and
    there is a draw for every request, each answer is due in `[t, t + 500 ms)`. -/
theorem delay_in_window :
    ∀ (reqs : List (Time × Req)) (draws : List Int),
      (∀ d ∈ draws, 0 ≤ d ∧ d < Gen.Advertise.maxRADelay) →
      (reqs.filter fun r => match r.2 with | .uc _ => true | .mc => false).length ≤ draws.length →
      ∀ x ∈ ucExpected reqs draws, x.1 ≤ x.1 + x.2.2 ∧ x.1 + x.2.2 < x.1 + 500 * ms
  | [], _, _, _, x, hx => by simp [ucExpected] at hx
  | (_, .mc) :: rest, draws, hd, hl, x, hx => by
    exact delay_in_window rest draws hd (by simpa using hl) x (by simpa [ucExpected] using hx)
  | (t, .uc h) :: rest, draws, hd, hl, x, hx => by
    cases draws with
    | nil => simp at hl
    | cons d ds =>
      simp only [ucExpected, List.headD_cons, List.tail_cons, List.mem_cons] at hx
      rcases hx with rfl | hx
      · have := hd d List.mem_cons_self
        rw [gen_constants] at this
        simp only
        omega
      · exact delay_in_window rest ds (fun d' hd' => hd d' (List.mem_cons_of_mem _ hd'))
          (by simp at hl; omega) x hx

/-- A solicitation from the unspecified address asks for an all-nodes multicast RA, one from a
    specified address for a unicast RA to that address; nothing else asks for anything. -/
theorem request_destination (e : AdvEvent) :
    requestOf e =
      if e.hop = 255 ∧ e.kind = 0 then some (e.t, if e.host = 0 then Req.mc else Req.uc e.host) else none :=
  requestOf_eq e

/-- An interface in unicast-only mode never transmits to a multicast destination. -/
theorem unicast_only_no_multicast (minDelay : Dur) :
    ∀ (reqs : List (Time × Req)) (s : SchedState) (draws : List Int),
      mcSends (schedule minDelay true s reqs draws) = [] :=
  mcSends_schedule_unicastOnly minDelay

/-! ### counters -/

/-- the counter updates `receiveRetry` + `handle` make for one message: (received by type,
    invalid by type) -/
def countStep (c : List Nat × List Nat) (e : AdvEvent) : List Nat × List Nat :=
  let bump := fun (l : List Nat) => l.mapIdx fun i n => if i = e.kind then n + 1 else n
  match classify e with
  | .invalidHop => (c.1, bump c.2)
  | .solicit | .advert => (bump c.1, c.2)
  | .otherType => (bump c.1, bump c.2)

theorem countStep_eq (c : List Nat × List Nat) (e : AdvEvent) :
    countStep c e =
      (if e.hop = 255 then c.1.mapIdx (fun i n => if i = e.kind then n + 1 else n) else c.1,
       if e.hop ≠ 255 ∨ 2 ≤ e.kind then c.2.mapIdx (fun i n => if i = e.kind then n + 1 else n) else c.2) := by
  rw [countStep, classify_eq]
  by_cases hh : e.hop = 255
  · by_cases h0 : e.kind = 0
    · simp [hh, h0]
    · by_cases h1 : e.kind = 1
      · simp [hh, h1]
      · have : 2 ≤ e.kind := by omega
        simp [hh, h0, h1, this]
  · simp [hh]

theorem getElem!_bump (c : Prop) [Decidable c] (l : List Nat) (j k : Nat) (hk : k < l.length) :
    (if c then l.mapIdx fun i n => if i = j then n + 1 else n else l)[k]! =
      l[k]! + if c ∧ j = k then 1 else 0 := by
  by_cases hc : c <;> simp only [hc, if_true, if_false, true_and, false_and, Nat.add_zero]
  simp only [getElem!_pos, List.length_mapIdx, hk, List.getElem_mapIdx, eq_comm (a := k)]
  split <;> rfl

theorem length_bump (c : Prop) [Decidable c] (l : List Nat) (j : Nat) :
    (if c then l.mapIdx fun i n => if i = j then n + 1 else n else l).length = l.length := by
  split <;> simp

theorem countKind_cons (e : AdvEvent) (evs : List AdvEvent) (p : AdvEvent → Bool) (k : Nat) :
    countKind (e :: evs) p k = countKind evs p k + if p e = true ∧ e.kind = k then 1 else 0 := by
  simp only [countKind, List.filter_cons, Bool.and_eq_true, beq_iff_eq, and_comm]
  split <;> simp

theorem counters_from (evs : List AdvEvent) (k : Nat) :
    ∀ (a b : List Nat), k < a.length → k < b.length →
      (evs.foldl countStep (a, b)).1[k]! = a[k]! + countKind evs (fun e => e.hop == 255) k ∧
      (evs.foldl countStep (a, b)).2[k]! =
        b[k]! + countKind evs (fun e => e.hop != 255 || decide (e.kind ≥ 2)) k := by
  induction evs with
  | nil => intro a b _ _; simp [countKind]
  | cons e rest ih =>
    intro a b ha hb
    rw [List.foldl_cons, countStep_eq]
    obtain ⟨i1, i2⟩ := ih _ _ (length_bump (e.hop = 255) a e.kind ▸ ha)
      (length_bump (e.hop ≠ 255 ∨ 2 ≤ e.kind) b e.kind ▸ hb)
    rw [i1, i2, getElem!_bump (e.hop = 255) _ _ _ ha, getElem!_bump (e.hop ≠ 255 ∨ 2 ≤ e.kind) _ _ _ hb,
      countKind_cons, countKind_cons]
    -- both sides add 1 under the same test on `e`, spelled with `==`/`||` on the right
    simp only [beq_iff_eq, bne_iff_ne, Bool.or_eq_true, decide_eq_true_eq, ge_iff_le]
    omega

/-- **received-by-type = validated messages delivered to the handler; invalid = messages that
    failed validation**, for every message sequence -/
theorem counters_exact (evs : List AdvEvent) (k : Nat) (hk : k < 4) :
    let c := evs.foldl countStep ([0, 0, 0, 0], [0, 0, 0, 0])
    c.1[k]! = countKind evs (fun e => e.hop == 255) k ∧
    c.2[k]! = countKind evs (fun e => e.hop != 255 || decide (e.kind ≥ 2)) k := by
  have h0 : ([0, 0, 0, 0] : List Nat)[k]! = 0 := by
    match k, hk with
    | 0, _ => rfl | 1, _ => rfl | 2, _ => rfl | 3, _ => rfl
  have h := counters_from evs k [0, 0, 0, 0] [0, 0, 0, 0] hk hk
  rw [h0, Nat.zero_add, Nat.zero_add] at h
  exact h

/-- Non-vacuity: two solicitations from one host 100 ms apart and one from `::` are answered by
    two unicast RAs (one each) and one multicast RA. -/
example :
    let reqs := [(1000 * ms, Req.uc 1), (1100 * ms, Req.uc 1), (1200 * ms, Req.mc)]
    ucSends (schedule (3 * second) false { next := 0 } reqs [400 * ms, 10 * ms]) = [(1400 * ms, 1), (1110 * ms, 1)] ∧
    mcSends (schedule (3 * second) false { next := 0 } reqs [400 * ms, 10 * ms]) = [3 * second] ∧
    Spec.C07.unicastExactlyOnce (10 * second) [(1000 * ms, 1), (1100 * ms, 1)] [(1110 * ms, 1), (1400 * ms, 1)] = true ∧
    Spec.C07.unicastExactlyOnce (10 * second) [(1000 * ms, 1), (1100 * ms, 1)] [(1110 * ms, 1)] = false := by
  decide

end Corerad.Props.C07
