/-
  C17 — Prometheus metrics and the debug API are always answerable and mirror the current RA.

  The model (Model/Observe.lean) is parameterised by what the source does (`Src`): which nil
  sources the plugins guard, which option kinds `collectMetrics` and `packOptions` handle, how
  the two optional routes are gated.  `Src.gen` is read off /repo on every run.  The theorems
  are stated for every `Src` with the required facts as hypotheses (`…_of`), instantiated at
  `Src.gen` through the expectation lemmas `gen_*` — which are closed by evaluation and therefore
  FAIL TO BUILD on a tree whose plugins call a nil source before `Prepare` (F-12) or whose JSON
  rendering lacks an option kind (F-13).  Witness theorems state those failures on the model.

  Quantifiers: every list of interfaces (any plugin list, hence every accepted configuration),
  every per-interface lifecycle point (never / initialised / re-initialising), every system
  state, every combination of sysctl read failures.

  Residue (not theorems): "without blocking", the data race between `Prepare` and a concurrent
  scrape, and the Prometheus registry running collectors on their own goroutines (so that a
  collector panic ends the process) are runtime facts outside the model.
-/
import Corerad.Spec.C17
import Corerad.Lemmas.Observe
import Corerad.Props.C01
import Corerad.Gen.Main

namespace Corerad.Props.C17

open Corerad.Model Corerad.Model.Observe

/-! ### regenerated facts -/

/-- How main wires observability: one pedantic Prometheus registry feeds both the metrics and the
    /metrics handler (so a duplicate sample makes the gather fail, as modelled), and the metrics
    collector and the debug API read the same `State` and the same parsed interfaces as the
    advertisers. -/
theorem gen_main_wiring :
    Gen.Main.pedanticRegistry = true ∧ Gen.Main.sameStateAndConfig = true := by decide

/-- every plugin source that is nil before `Prepare` is checked before it is called
    (false on a tree with F-12: the build of this lemma fails) -/
theorem gen_unprepared_guarded : Src.gen.guards = Guards.all := by decide

/-- the type switch of `packOptions` has a case for every option kind CoreRAD can advertise
    (false on a tree with F-13: `PREF64` is missing) -/
theorem gen_pack_kinds : Src.gen.pack = PackKinds.all := by
  -- `simp`, here and below: `decide` compares the strings in the kernel, which is slow
  simp [Src.gen, PackKinds.ofNames, Gen.Metrics.packOptionKinds, PackKinds.all]

/-- `collectMetrics` picks and reports PI, RI, RDNSS and DNSSL options -/
theorem gen_collect_kinds : Src.gen.collect = CollectKinds.all := by
  simp [Src.gen, CollectKinds.ofNames, Gen.Metrics.collectPickKinds, CollectKinds.all]

/-- `/metrics` is registered only under `cfg.Debug.Prometheus`, `/debug/pprof/…` only under
    `cfg.Debug.PProf` -/
theorem gen_gated : Src.gen.metricsGated = true ∧ Src.gen.pprofGated = true := by decide

/-- both observation paths pass the live `State.IPv6Forwarding` result to
    `RouterAdvertisement`, and they are, with `buildRA`, its only callers -/
theorem gen_reads_forwarding :
    Gen.Metrics.scrapeReadsForwarding = true ∧ Gen.Metrics.apiReadsForwarding = true ∧
    Gen.Metrics.raCallSites =
      ["internal/corerad/advertise.go:buildRA", "internal/corerad/metrics.go:constScrape",
       "internal/crhttp/handler.go:interfaces"] := ⟨rfl, rfl, rfl⟩

theorem gen_src_sound : Src.gen = Src.sound := by
  show Src.mk Src.gen.guards Src.gen.collect Src.gen.pack Src.gen.metricsGated Src.gen.pprofGated = _
  rw [gen_unprepared_guarded, gen_collect_kinds, gen_pack_kinds, gen_gated.1, gen_gated.2]; rfl

/-! ### the lifecycle-aware builders follow the pure model

Each level is one `Result.Follows` statement: blocked where a never-initialised interface has a
stanza that needs a source, a panic only where a guard is missing. -/

theorem nilOutcome_follows (auto gA dep gT : Bool) :
    Result.Follows (auto || dep) (¬(gA = true ∧ gT = true)) (nilOutcome auto gA dep gT) (some ()) := by
  unfold Result.Follows; revert auto gA dep gT; decide

theorem nilCall_follows (g : Guards) (p : Plugin) :
    Result.Follows (Spec.C17.needsSource p) (g ≠ Guards.all) (nilCall g p) (some ()) := by
  cases p with
  | pfx auto _ _ _ _ _ dep =>
    exact (nilOutcome_follows auto _ dep _).mono (fun h hg => h (by subst hg; exact ⟨rfl, rfl⟩)) rfl
  | route auto _ _ _ dep =>
    exact (nilOutcome_follows auto _ dep _).mono (fun h hg => h (by subst hg; exact ⟨rfl, rfl⟩)) rfl
  | rdnss auto _ _ =>
    exact (nilOutcome_follows auto _ false true).mono (fun h hg => h (by subst hg; exact ⟨rfl, rfl⟩))
      (Bool.or_false _)
  | _ => exact .inl rfl

theorem nilCall_none (p : Plugin) :
    nilCall Guards.none p = if Spec.C17.needsSource p then .panic else .ok () := by
  cases p with
  | pfx auto _ _ _ _ _ dep => cases auto <;> cases dep <;> rfl
  | route auto _ _ _ dep => cases auto <;> cases dep <;> rfl
  | rdnss auto _ _ => cases auto <;> rfl
  | _ => rfl

theorem applyPlugin_unprepared (g : Guards) (sys : SysState) (p : Plugin) :
    applyPlugin g false sys p = (nilCall g p).bind fun _ => .ofOption (p.apply (unpreparedSys sys)) := by
  unfold applyPlugin; cases nilCall g p <;> rfl

theorem applyPlugin_follows (g : Guards) (prepared : Bool) (sys : SysState) (p : Plugin) :
    Result.Follows (!prepared && Spec.C17.needsSource p) (g ≠ Guards.all ∧ prepared = false)
      (applyPlugin g prepared sys p) (p.apply (effSys prepared sys)) := by
  cases prepared with
  | true => exact .inl rfl
  | false =>
    rw [applyPlugin_unprepared]
    exact ((nilCall_follows g p).bind fun _ _ => .ofOption _).mono (⟨·, rfl⟩) (Bool.or_false _)

theorem applyAllR_follows (g : Guards) (prepared : Bool) (sys : SysState) (ps : List Plugin) :
    Result.Follows (!prepared && ps.any Spec.C17.needsSource) (g ≠ Guards.all ∧ prepared = false)
      (applyAllR g prepared sys ps) (applyAll (effSys prepared sys) ps) := by
  refine .mono id (by cases prepared <;> simp) <| .traverse (R := applyAllR g prepared sys) (O := applyAll _)
    rfl (fun _ _ => rfl) rfl (fun p ps => (applyAll_cons _ p ps).trans (optAppend_eq_bind ..)) ps
    fun p _ => applyPlugin_follows g prepared sys p

/-- an RA generated at a lifecycle point is the RA `Interface.RouterAdvertisement` returns on
    the state visible at that point (`effSys`) -/
theorem routerAdvertisementR_follows (g : Guards) (prepared : Bool) (ifi : Interface) (sys : SysState)
    (fw : Bool) :
    Result.Follows (!prepared && ifi.plugins.any Spec.C17.needsSource) (g ≠ Guards.all ∧ prepared = false)
      (routerAdvertisementR g prepared ifi sys fw) (routerAdvertisement ifi (effSys prepared sys) fw) := by
  rw [routerAdvertisement_eq]; exact (applyAllR_follows g prepared sys ifi.plugins).map

/-- The render of what `routerAdvertisement` returns at that moment, for one interface:
    `none` when a sysctl read fails or the RA cannot be generated. -/
def mirrorIface (ck : CollectKinds) (ifi : Interface) (e : IfEnv) : Option (List Sample) :=
  match e.autoconf, e.forwarding with
  | some auto, some fw =>
    if ifi.advertise then
      (routerAdvertisement ifi (effSys e.lifecycle.prepared e.sys) fw).map fun r =>
        collectMetrics ck ifi auto fw (some r)
    else some (collectMetrics ck ifi auto fw none)
  | _, _ => none

def mirrorAll (ck : CollectKinds) : List (Interface × IfEnv) → Option (List Sample)
  | [] => some []
  | (ifi, e) :: rest =>
    match mirrorIface ck ifi e, mirrorAll ck rest with
    | some a, some b => some (a ++ b)
    | _, _ => none

/-- an advertising interface that was never initialised and has a stanza that needs a source:
    its RA cannot be generated -/
def blocked (x : Interface × IfEnv) : Bool :=
  x.1.advertise && (!x.2.lifecycle.prepared && x.1.plugins.any Spec.C17.needsSource)

theorem scrapeIface_follows (s : Src) (ifi : Interface) (e : IfEnv) :
    Result.Follows (blocked (ifi, e)) (s.guards ≠ Guards.all ∧ e.lifecycle.prepared = false)
      (scrapeIface s ifi e) (mirrorIface s.collect ifi e) := by
  unfold scrapeIface mirrorIface blocked
  cases e.autoconf with
  | none => exact .error
  | some auto =>
    cases e.forwarding with
    | none => exact .error
    | some fw =>
      cases ifi.advertise with
      | true => exact (routerAdvertisementR_follows _ _ ifi e.sys fw).map
      | false => exact .ofOption (some _)

theorem mirrorAll_cons (ck : CollectKinds) (ifi : Interface) (e : IfEnv) (rest : List (Interface × IfEnv)) :
    mirrorAll ck ((ifi, e) :: rest) =
      (mirrorIface ck ifi e).bind fun a => (mirrorAll ck rest).bind fun b => some (a ++ b) := by
  rw [mirrorAll]; cases mirrorIface ck ifi e <;> cases mirrorAll ck rest <;> rfl

theorem gather_eq (ss : List Sample) : gather ss = .ofOption (if Observe.hasDup ss then none else some ss) := by
  unfold gather; cases Observe.hasDup ss <;> rfl

/-- A scrape follows the render of the current RAs: it fails where an interface is blocked,
    a read fails, an RA cannot be generated or two samples collide; it can panic only on an
    unguarded source with an interface that never came up. -/
theorem scrape_follows (s : Src) (envs : List (Interface × IfEnv)) :
    Result.Follows (envs.any blocked) (s.guards ≠ Guards.all ∧ ∃ x ∈ envs, x.2.lifecycle.prepared = false)
      (scrape s envs)
      ((mirrorAll s.collect envs).bind fun ss => if Observe.hasDup ss then none else some ss) := by
  have hc : Result.Follows (envs.any blocked) (s.guards ≠ Guards.all ∧ ∃ x ∈ envs, x.2.lifecycle.prepared = false)
      (collectAll s envs) (mirrorAll s.collect envs) :=
    .traverse (R := collectAll s) (O := mirrorAll s.collect) rfl (fun _ _ => rfl) rfl
      (fun x l => mirrorAll_cons _ x.1 x.2 l) envs fun x hx =>
      (scrapeIface_follows s x.1 x.2).mono (fun h => ⟨h.1, x, hx, h.2⟩) rfl
  exact .mono id (Bool.or_false _) (hc.bind fun ss _ => gather_eq ss ▸ .ofOption _)

/-! ### never a panic -/

/-- **scrape_total**, for any source that guards its nil sources: for every list of
    interfaces, every lifecycle point of each, every system state and every combination of
    failing sysctl reads, a scrape yields samples or an error — never a panic. -/
theorem scrape_total_of (s : Src) (hg : s.guards = Guards.all) (envs : List (Interface × IfEnv)) :
    scrape s envs ≠ .panic :=
  (scrape_follows s envs).ne_panic fun h => h.1 hg

/-- **scrape_total** on the source as it is (through `gen_unprepared_guarded`). -/
theorem scrape_total (envs : List (Interface × IfEnv)) : scrape Src.gen envs ≠ .panic :=
  scrape_total_of Src.gen gen_unprepared_guarded envs

/-- Once every interface has been initialised no source is nil: no panic whatever the source
    guards.  (So F-12 concerns exactly the interfaces that never came up.) -/
theorem scrape_total_initialised (s : Src) (envs : List (Interface × IfEnv))
    (h : ∀ x ∈ envs, x.2.lifecycle ≠ .never) : scrape s envs ≠ .panic := by
  refine (scrape_follows s envs).ne_panic fun ⟨_, x, hx, hp⟩ => h x hx ?_
  revert hp; cases x.2.lifecycle <;> simp [Lifecycle.prepared]

/-- which stanzas of a never-initialised interface reach a nil func when nothing is guarded:
    exactly the wildcard and the deprecated ones -/
theorem unguarded_panics_iff (sys : SysState) (p : Plugin) :
    applyPlugin Guards.none false sys p = .panic ↔ Spec.C17.needsSource p = true := by
  rw [applyPlugin_unprepared, nilCall_none]
  cases Spec.C17.needsSource p <;> simp [Result.ofOption_ne_panic]

/-- `config.Minimal`'s advertising interface: one wildcard prefix and the link-layer address -/
def minimalIface : Interface :=
  { name := 1, advertise := true, minInterval := 198 * second, maxInterval := 600 * second,
    hopLimit := 64, defaultLifetime := 1800 * second,
    plugins := [.pfx true { addr := { val := 0 }, bits := 64 } true true (24 * hour) (4 * hour) false, .lla] }

/-- **F-12 on the model**: without the guards, scraping the minimal configuration before its
    interface has come up panics; so does the API request. -/
theorem unguarded_minimal_panics :
    scrape { Src.sound with guards := Guards.none } [(minimalIface, { lifecycle := .never })] = .panic ∧
    api { Src.sound with guards := Guards.none } [(minimalIface, { lifecycle := .never })] = .panic := by
  constructor <;> rfl

/-! ### what an ok scrape reports -/

/-- **scrape_mirrors**: when a scrape succeeds, for every source, what it reports is — in
    configuration order — the render of the RA that `Interface.RouterAdvertisement` returns at
    that moment for every advertising interface (on the state its plugins can see), the gauges
    of every interface with the values just read, and no two samples share family and labels. -/
theorem scrape_mirrors {s : Src} {envs : List (Interface × IfEnv)} {ss : List Sample}
    (h : scrape s envs = .ok ss) : mirrorAll s.collect envs = some ss ∧ Observe.hasDup ss = false := by
  obtain ⟨all, hm, hg⟩ := Option.bind_eq_some_iff.mp ((scrape_follows s envs).eq_ok h)
  split at hg
  · exact nomatch hg
  · cases hg; exact ⟨hm, Bool.eq_false_iff.mpr ‹_›⟩

/-- Conversely, with every interface initialised a scrape succeeds exactly when everything can
    be read and generated and no two samples collide; nothing else makes it fail. -/
theorem scrape_ok_iff_initialised (s : Src) (envs : List (Interface × IfEnv)) (ss : List Sample)
    (hp : ∀ x ∈ envs, x.2.lifecycle.prepared = true) :
    scrape s envs = .ok ss ↔ mirrorAll s.collect envs = some ss ∧ Observe.hasDup ss = false := by
  refine ⟨scrape_mirrors, ?_⟩
  rintro ⟨hm, hd⟩
  have hb : envs.any blocked = false := by
    simp only [List.any_eq_false, blocked]; intro x hx; simp [hp x hx]
  rw [(scrape_follows s envs).eq fun ⟨_, x, hx, h⟩ => by simp [hp x hx] at h, hb, hm]
  simp [Result.ofOption, hd]

/-! ### one sample per option, flags and lifetimes, the gauges -/

/-- with all four kinds collected, the model's per-option samples are the oracle's: four
    series per Prefix Information option (both flags, both lifetimes), one lifetime per Route
    Information, RDNSS and DNSSL option, labelled with interface and CIDR / servers / domains;
    nothing for the other kinds -/
theorem optSamples_all (name : Nat) (o : Opt) :
    optSamples CollectKinds.all name o = Spec.C17.optSeries name o := by
  cases o <;> rfl

theorem optSamples_count (name : Nat) (o : Opt) :
    (optSamples CollectKinds.all name o).length =
      match o with
      | .pi .. => 4
      | .ri .. | .rdnss .. | .dnssl .. => 1
      | _ => 0 := by
  cases o <;> rfl

/-- the four gauges of every interface carry the configuration's roles and the values read -/
theorem gauges_reported (ck : CollectKinds) (ifi : Interface) (auto fw : Bool) (ra : Option (RA × Bool)) :
    (⟨.advertising, .iface ifi.name, b2v ifi.advertise⟩ : Sample) ∈ collectMetrics ck ifi auto fw ra ∧
    (⟨.monitoring, .iface ifi.name, b2v ifi.monitor⟩ : Sample) ∈ collectMetrics ck ifi auto fw ra ∧
    (⟨.autoconfiguration, .iface ifi.name, b2v auto⟩ : Sample) ∈ collectMetrics ck ifi auto fw ra ∧
    (⟨.forwarding, .iface ifi.name, b2v fw⟩ : Sample) ∈ collectMetrics ck ifi auto fw ra := by
  simp [collectMetrics, gauges]

/-- per-option samples belong to the five option families -/
theorem optSamples_family {ck : CollectKinds} {name : Nat} {o : Opt} {x : Sample}
    (hx : x ∈ optSamples ck name o) : 5 ≤ x.family.id ∧ x.labels.ifaceOf = name := by
  -- `x` is one of the samples listed for `o`'s kind, each of an option family and labelled `name`
  cases o <;> simp only [optSamples, List.mem_ite_nil_right, List.mem_cons, List.not_mem_nil, or_false] at hx
  case pi => obtain ⟨-, rfl | rfl | rfl | rfl⟩ := hx <;> exact ⟨Nat.le_of_ble_eq_true rfl, rfl⟩
  case ri | rdnss | dnssl => obtain ⟨-, rfl⟩ := hx; exact ⟨Nat.le_of_ble_eq_true rfl, rfl⟩

theorem gauges_family {name : Nat} {a m c f : Bool} {x : Sample} (hx : x ∈ gauges name a m c f) :
    x.family.id ≤ 3 ∧ x.labels.ifaceOf = name := by
  simp only [gauges, List.mem_cons, List.not_mem_nil, or_false] at hx
  rcases hx with rfl | rfl | rfl | rfl <;> exact ⟨by simp [Family.id], rfl⟩

theorem misconfig_family {mis : Bool} {name : Nat} {x : Sample}
    (hx : x ∈ (if mis then [(⟨.misconfiguration, .details name, second⟩ : Sample)] else [])) :
    x.family.id = 4 ∧ x.labels.ifaceOf = name := by
  cases mis
  · exact nomatch hx
  · cases List.mem_singleton.mp hx; exact ⟨rfl, rfl⟩

/-- the misconfiguration gauge is reported iff the interface does not forward although a
    non-zero router lifetime is configured (C04's condition) -/
theorem misconfiguration_iff (ck : CollectKinds) (ifi : Interface) (auto fw : Bool) (opts : List Opt) :
    (∃ x ∈ collectMetrics ck ifi auto fw (some (finishRA ifi fw opts)), x.family = .misconfiguration) ↔
      (fw = false ∧ 0 < ifi.defaultLifetime) := by
  simp only [collectMetrics, List.mem_append, finishRA_eq]
  constructor
  · rintro ⟨x, hx | hx | hx, hf⟩
    · have := (gauges_family hx).1
      rw [hf] at this; exact absurd this (by decide)
    · by_cases hc : fw = false ∧ 0 < ifi.defaultLifetime
      · exact hc
      · simp [hc] at hx
    · have ⟨_, _, hxo⟩ := List.mem_flatMap.mp hx
      have := (optSamples_family hxo).1
      rw [hf] at this; exact absurd this (by decide)
  · intro hc
    exact ⟨⟨.misconfiguration, .details ifi.name, second⟩, .inr (.inl (by simp [hc])), rfl⟩

/-! ### the JSON rendering -/

/-- does the type switch render the option: its kind has a case and, for a route, the
    preference is one `preference()` knows -/
def renders (pk : PackKinds) : Opt → Bool
  | .captivePortal .. => pk.captivePortal
  | .dnssl .. => pk.dnssl
  | .lla .. => pk.lla
  | .mtu _ => pk.mtu
  | .pi .. => pk.pinfo
  | .rdnss .. => pk.rdnss
  | .ri _ _ preference _ => pk.route && prefValid preference
  | .pref64 .. => pk.pref64

/-- what the parser guarantees about an option: a route's preference is Low/Medium/High -/
def optOK : Opt → Bool
  | .ri _ _ preference _ => prefValid preference
  | _ => true

theorem renders_all (o : Opt) : renders PackKinds.all o = optOK o := by cases o <;> rfl

/-- `packFrom` from an accumulator, in terms of the rendering `Spec.C17.jsonOptionsOf` of the options still
    to come: the list fields grow by it, a scalar field is overwritten by the last option of its kind, if any
    (the MTU has no "unset" value in the rendering, so it is read off the options) -/
def accum (out : JOptions) (opts : List Opt) : JOptions :=
  { dnssl := out.dnssl ++ (Spec.C17.jsonOptionsOf opts).dnssl,
    mtu := ((opts.filterMap fun | .mtu m => some m | _ => none).getLast?).getD out.mtu,
    prefixes := out.prefixes ++ (Spec.C17.jsonOptionsOf opts).prefixes,
    rdnss := out.rdnss ++ (Spec.C17.jsonOptionsOf opts).rdnss,
    routes := out.routes ++ (Spec.C17.jsonOptionsOf opts).routes,
    lla := (Spec.C17.jsonOptionsOf opts).lla.or out.lla,
    captivePortal := (Spec.C17.jsonOptionsOf opts).captivePortal.or out.captivePortal,
    pref64 := out.pref64 ++ (Spec.C17.jsonOptionsOf opts).pref64 }

theorem accum_empty (opts : List Opt) : accum {} opts = Spec.C17.jsonOptionsOf opts := by
  simp only [accum, List.nil_append, Option.or_none]
  rfl

theorem getLast?_or_some (l : List α) (x : α) : l.getLast?.or (some x) = some (l.getLast?.getD x) := by
  cases l.getLast? <;> rfl

theorem packOpt_eq (pk : PackKinds) (out : JOptions) (o : Opt) (os : List Opt) :
    ∃ out', packOpt pk out o = (if renders pk o then .ok out' else .panic) ∧
      accum out' os = accum out (o :: os) := by
  cases o with
  | ri a len pref lt =>
    exact ⟨{ out with routes := out.routes ++ [⟨a, len, pref, wholeSeconds lt⟩] },
      by cases hr : pk.route <;> simp [packOpt, renders, hr],
      by unfold accum; congr 1; exact List.append_assoc ..⟩
  | mtu m => exact ⟨_, rfl, by unfold accum; congr 1; rw [List.filterMap_cons, List.getLast?_cons]; rfl⟩
  | lla len mac =>
    exact ⟨_, rfl, by
      unfold accum; congr 1
      simp only [Spec.C17.jsonOptionsOf, List.filterMap_cons, List.getLast?_cons]; exact getLast?_or_some ..⟩
  | captivePortal u l =>
    exact ⟨_, rfl, by
      unfold accum; congr 1
      simp only [Spec.C17.jsonOptionsOf, List.filterMap_cons, List.getLast?_cons]; exact getLast?_or_some ..⟩
  | _ => exact ⟨_, rfl, by unfold accum; congr 1; exact List.append_assoc ..⟩

theorem packFrom_eq (pk : PackKinds) (out : JOptions) (opts : List Opt) :
    packFrom pk out opts = if opts.all (renders pk) then .ok (accum out opts) else .panic := by
  induction opts generalizing out with
  | nil =>
    exact congrArg Result.ok (by unfold accum Spec.C17.jsonOptionsOf; simp only [List.filterMap_nil, List.append_nil]; rfl)
  | cons o os ih =>
    obtain ⟨out', h1, h2⟩ := packOpt_eq pk out o os
    rw [packFrom, h1, List.all_cons, ← h2]
    cases renders pk o with
    | false => rfl
    | true => exact ih out'

theorem packFrom_ne_error (pk : PackKinds) (out : JOptions) (opts : List Opt) :
    packFrom pk out opts ≠ .error := by
  rw [packFrom_eq]; split <;> exact fun h => nomatch h

/-- **json_covers_all_kinds**, for a switch that handles every kind: every option CoreRAD can
    advertise is rendered; `Opt` is the set of kinds CoreRAD can advertise, so a kind added
    later breaks this proof.  (`optOK`: what the parser guarantees for a route's preference.) -/
theorem json_covers_all_kinds_of (pk : PackKinds) (hk : pk = PackKinds.all) (o : Opt) (ho : optOK o = true) :
    packOptions pk [o] ≠ .panic := by
  rw [packOptions, packFrom_eq, hk]; simp [renders_all, ho]

/-- **json_covers_all_kinds** on the source as it is (through `gen_pack_kinds`). -/
theorem json_covers_all_kinds (o : Opt) (ho : optOK o = true) : packOptions Src.gen.pack [o] ≠ .panic :=
  json_covers_all_kinds_of _ gen_pack_kinds o ho

/-- **F-13 on the model**: a switch without the PREF64 case panics on every RA that carries a
    PREF64 option — i.e. for every configuration with a `pref64` stanza. -/
theorem pref64_unhandled_panics (pk : PackKinds) (hk : pk.pref64 = false) (opts : List Opt)
    (p : Prefix) (lt : Dur) (h : Opt.pref64 p lt ∈ opts) : packOptions pk opts = .panic := by
  rw [packOptions, packFrom_eq, if_neg]
  intro hall
  have := List.all_eq_true.mp hall _ h
  rw [renders, hk] at this
  exact nomatch this

theorem packRA_eq (pk : PackKinds) (ra : RA) :
    packRA pk ra =
      if prefValid ra.preference && ra.options.all (renders pk) then .ok (Spec.C17.jsonOf ra) else .panic := by
  rw [packRA, packOptions, packFrom_eq, accum_empty]
  cases prefValid ra.preference <;> cases ra.options.all (renders pk) <;> rfl

/-- options built from parser-approved plugins are parser-approved: only a route stanza emits an
    option that carries a preference, and it is the stanza's own -/
theorem apply_optOK {sys : SysState} {p : Plugin} {os : List Opt}
    (hp : Spec.C17.pluginOK p = true) (h : p.apply sys = some os) : os.all optOK = true := by
  cases p with
  | route auto q preference lifetime dep =>
    have hpv : prefValid preference = true := hp
    cases auto with
    | false => cases h; exact (Bool.and_true _).trans hpv
    | true =>
      cases hr : sys.routes with
      | none => simp only [Plugin.apply, hr] at h; exact nomatch h
      | some rs =>
        simp only [Plugin.apply, hr] at h
        cases h
        rw [List.all_map]; exact List.all_eq_true.mpr fun _ _ => hpv
  | pfx auto q ol au v pr dep =>
    cases auto with
    | false => cases h; rfl
    | true =>
      cases hr : sys.addrs with
      | none => simp only [Plugin.apply, hr] at h; exact nomatch h
      | some as =>
        simp only [Plugin.apply, hr] at h
        cases h
        rw [List.all_map]; exact List.all_eq_true.mpr fun _ _ => rfl
  | rdnss auto lt servers => obtain ⟨s, _, rfl⟩ := Option.map_eq_some_iff.mp h; rfl
  | lla => cases hm : sys.mac <;> simp only [Plugin.apply, hm] at h <;> cases h <;> rfl
  | dnssl _ _ | mtu _ | captivePortal _ _ | pref64 _ _ => cases h; rfl

theorem renders_of_ifaceOK {ifi : Interface} {sys : SysState} {fw : Bool} {r : RA × Bool}
    (hi : Spec.C17.ifaceOK ifi = true) (h : routerAdvertisement ifi sys fw = some r) :
    (prefValid r.1.preference && r.1.options.all (renders PackKinds.all)) = true := by
  simp only [Spec.C17.ifaceOK, Bool.and_eq_true] at hi
  obtain ⟨opts, ho, rfl⟩ := routerAdvertisement_eq_some.mp h
  rw [finishRA_eq, funext renders_all, Bool.and_eq_true]
  refine ⟨hi.1.1, List.all_eq_true.mpr fun o hoo => ?_⟩
  obtain ⟨p, hpm, l, hl, hol⟩ := mem_applyAll ho hoo
  exact List.all_eq_true.mp (apply_optOK (List.all_eq_true.mp hi.2 p hpm) hl) o hol

/-- what the API must report for one interface -/
def mirrorApiIface (ifi : Interface) (e : IfEnv) : Option JIface :=
  if !ifi.advertise then some { name := ifi.name, advertise := false, advertisement := none }
  else match e.forwarding with
    | none => none
    | some fw =>
      (routerAdvertisement ifi (effSys e.lifecycle.prepared e.sys) fw).map fun r =>
        { name := ifi.name, advertise := true, advertisement := some (Spec.C17.jsonOf r.1) }

def mirrorApi : List (Interface × IfEnv) → Option (List JIface)
  | [] => some []
  | (ifi, e) :: rest =>
    match mirrorApiIface ifi e, mirrorApi rest with
    | some a, some b => some (a :: b)
    | _, _ => none

theorem apiIface_follows (s : Src) (ifi : Interface) (e : IfEnv) :
    Result.Follows (blocked (ifi, e))
      (¬(s.guards = Guards.all ∧ s.pack = PackKinds.all ∧ Spec.C17.ifaceOK ifi = true))
      (apiIface s ifi e) (mirrorApiIface ifi e) := by
  unfold apiIface mirrorApiIface blocked
  cases ifi.advertise with
  | false => exact .ofOption (some _)
  | true =>
    cases e.forwarding with
    | none => exact .error
    | some fw =>
      refine .mono id (Bool.or_false _) <|
        ((routerAdvertisementR_follows _ _ ifi e.sys fw).mono (fun h hc => h.1 hc.1) rfl).bind_map fun r hr => ?_
      rw [packRA_eq]
      by_cases hc : (prefValid r.1.preference && r.1.options.all (renders s.pack)) = true
      · rw [if_pos hc]; exact .ofOption (some _)
      · rw [if_neg hc]; exact .inr ⟨fun h => hc (h.2.1 ▸ renders_of_ifaceOK h.2.2 hr), rfl⟩

theorem mirrorApi_cons (ifi : Interface) (e : IfEnv) (rest : List (Interface × IfEnv)) :
    mirrorApi ((ifi, e) :: rest) =
      (mirrorApiIface ifi e).bind fun a => (mirrorApi rest).bind fun b => some (a :: b) := by
  rw [mirrorApi]; cases mirrorApiIface ifi e <;> cases mirrorApi rest <;> rfl

/-- A request follows the JSON rendering of the current RAs; it can panic only on an unguarded
    source, an unhandled option kind, or an interface the parser would not have produced. -/
theorem api_follows (s : Src) (envs : List (Interface × IfEnv)) :
    Result.Follows (envs.any blocked)
      (¬(s.guards = Guards.all ∧ s.pack = PackKinds.all ∧ ∀ x ∈ envs, Spec.C17.ifaceOK x.1 = true))
      (api s envs) (mirrorApi envs) := by
  exact .traverse (R := api s) (O := mirrorApi) rfl (fun _ _ => rfl) rfl (fun x l => mirrorApi_cons x.1 x.2 l) envs fun x hx =>
    (apiIface_follows s x.1 x.2).mono (fun h hc => h ⟨hc.1, hc.2.1, hc.2.2 x hx⟩) rfl

/-- **api_total**, for a source that guards its nil sources and renders every kind: for every
    list of parser-approved interfaces, at every lifecycle point, with any failing read, the
    request yields a body or an error — never a panic. -/
theorem api_total_of (s : Src) (hg : s.guards = Guards.all) (hk : s.pack = PackKinds.all)
    (envs : List (Interface × IfEnv)) (hok : ∀ x ∈ envs, Spec.C17.ifaceOK x.1 = true) :
    api s envs ≠ .panic :=
  (api_follows s envs).ne_panic (not_not_intro ⟨hg, hk, hok⟩)

/-- **api_total** on the source as it is (through `gen_unprepared_guarded`, `gen_pack_kinds`). -/
theorem api_total (envs : List (Interface × IfEnv)) (hok : ∀ x ∈ envs, Spec.C17.ifaceOK x.1 = true) :
    api Src.gen envs ≠ .panic :=
  api_total_of Src.gen gen_unprepared_guarded gen_pack_kinds envs hok

/-- **api_mirrors**: when the request succeeds — for every source — the body lists every
    configured interface in order, with a null advertisement for those that do not advertise
    and, for the others, the JSON rendering (every option kind, lifetimes in whole seconds,
    timers in whole milliseconds) of the RA `Interface.RouterAdvertisement` returns at that
    moment with the forwarding state just read. -/
theorem api_mirrors {s : Src} {envs : List (Interface × IfEnv)} {js : List JIface}
    (h : api s envs = .ok js) : mirrorApi envs = some js :=
  (api_follows s envs).eq_ok h

/-! ### every accepted configuration is covered: what the parser guarantees

Each validator that is a chain of early returns is folded into accepting form (`Lemmas/Accept`):
`if d then some e else none` with the results of the sub-validators as `getD`; the guarantee is then
read off `e`. -/

theorem prefOK_parsePreference (c : Nat) : Spec.C17.prefOK ((parsePreference c).getD 0) = true := by
  unfold parsePreference; split <;> rfl

theorem parseRoute_ok {r : RawRoute} {p : Plugin} (h : parseRoute r = some p) : Spec.C17.pluginOK p = true := by
  unfold parseRoute at h
  simp only [Option.bind_eq_bind, Option.bind_none, Option.pure_def, Accept.bind_isSome Prefix.zero,
    Accept.bind_isSome (0 : Dur), Accept.bind_isSome (0 : Nat), Accept.reject_else, Accept.then_then,
    Option.ite_none_right_eq_some] at h
  obtain ⟨-, h⟩ := h
  cases h
  exact prefOK_parsePreference r.preference

theorem parsePrefix_ok {r : RawPrefix} {p : Plugin} (h : parsePrefix r = some p) : Spec.C17.pluginOK p = true := by
  unfold parsePrefix at h
  simp only [Option.bind_eq_bind, Option.bind_none, Option.pure_def, Accept.bind_isSome Prefix.zero,
    Accept.bind_isSome (0 : Dur), Accept.reject_else, Accept.then_then, Option.ite_none_right_eq_some] at h
  obtain ⟨-, h⟩ := h
  cases h
  rfl

theorem parseRDNSS_ok {r : RawRDNSS} {m : Dur} {p : Plugin} (h : parseRDNSS r m = some p) : Spec.C17.pluginOK p = true := by
  rw [Props.C02.parseRDNSS_eq, Option.ite_none_right_eq_some] at h
  obtain ⟨-, h⟩ := h
  cases h
  rfl

theorem parseDNSSL_ok {r : RawDNSSL} {m : Dur} {p : Plugin} (h : parseDNSSL r m = some p) : Spec.C17.pluginOK p = true := by
  rw [Props.C02.parseDNSSL_eq, Option.ite_none_right_eq_some] at h
  obtain ⟨-, h⟩ := h
  cases h
  rfl

theorem parsePref64_ok {r : RawPref64} {m : Dur} {p : Plugin} (h : parsePref64 r m = some p) : Spec.C17.pluginOK p = true := by
  unfold parsePref64 at h
  simp only at h
  split at h
  · exact nomatch h
  · split at h
    · cases h; rfl
    · exact nomatch h

theorem parsePlugins_ok {raw : RawInterface} {maxI : Dur} {ps : List Plugin}
    (h : parsePlugins raw maxI = some ps) : ps.all Spec.C17.pluginOK = true := by
  unfold parsePlugins at h
  simp only [Option.bind_eq_bind, Option.bind_none, Option.pure_def, Accept.bind_isSome ([] : List Plugin),
    Accept.reject_else, Accept.then_then, Option.ite_none_right_eq_some] at h
  obtain ⟨-, h⟩ := h
  cases h
  -- the eight blocks, in the order `parsePlugins` appends them
  simp only [List.all_append, Bool.and_eq_true]
  and_intros
  · exact Props.C02.mapM'_all (fun _ _ => parsePrefix_ok) _
  · exact Props.C02.mapM'_all (fun _ _ => parseRoute_ok) _
  · exact Props.C02.mapM'_all (fun _ _ => parseRDNSS_ok) _
  · exact Props.C02.mapM'_all (fun _ _ => parseDNSSL_ok) _
  · split <;> rfl
  · split <;> rfl
  · cases raw.captivePortal with
    | ok u l => dsimp only; split <;> rfl
    | _ => rfl
  · exact Props.C02.mapM'_all (fun _ _ => parsePref64_ok) _

theorem parseInterface_ok {n : Nat} {raw : RawInterface} {ifi : Interface}
    (h : parseInterface n raw = some ifi) : Spec.C17.ifaceOK ifi = true := by
  unfold parseInterface at h
  cases hmon : raw.monitor with
  | true =>
    cases hadv : raw.advertise <;> rw [hmon, hadv] at h
    · cases h; rfl
    · exact nomatch h
  | false =>
    simp only [hmon, Bool.false_and, Bool.false_eq_true, if_false, Option.bind_eq_bind, Option.bind_none,
      Option.pure_def, Accept.bind_isSome (0 : Dur), Accept.bind_isSome (0 : Nat),
      Accept.bind_isSome ([] : List Plugin), Accept.reject_else, Accept.then_then,
      Option.ite_none_right_eq_some] at h
    obtain ⟨hd, h⟩ := h
    cases h
    generalize (parsePlainDur raw.maxInterval Gen.Config.defaultMaxInterval).getD 0 = maxI at hd ⊢
    -- of the accepting test only the second clause is needed: `max_interval` is within its range, so `0 ≤ maxI`
    simp only [Bool.and_eq_true] at hd
    obtain ⟨-, hrange, -⟩ := hd
    have hrange := of_decide_eq_false (Bool.not_eq_true' _ ▸ hrange)
    have hlo : (0 : Int) ≤ Gen.Config.maxIntervalLo := by decide
    have h0 : 0 ≤ (parseDefaultLifetime raw.defaultLifetime maxI).getD 0 :=
      Props.C02.parseDefaultLifetime_eq .. ▸ Props.C01.lifetimeOf_nonneg raw.defaultLifetime maxI (by omega)
    simp only [Spec.C17.ifaceOK, prefOK_parsePreference, decide_eq_true h0, Bool.true_and]
    cases hps : parsePlugins raw maxI with
    | none => rfl
    | some ps => exact parsePlugins_ok hps

theorem parseInterfaces_ok (raw : RawInterface) :
    ((parseInterfaces raw).getD []).all Spec.C17.ifaceOK = true := by
  unfold parseInterfaces
  dsimp only
  split
  · rfl
  · split
    · exact Props.C02.mapM'_all (fun _ _ => parseInterface_ok) _
    · split
      · exact Props.C02.mapM'_all (fun _ _ => parseInterface_ok) _
      · rfl

theorem parseAll_ok (raws : List RawInterface) (seen : List Nat) :
    ((parseAll raws seen).getD []).all Spec.C17.ifaceOK = true := by
  induction raws generalizing seen with
  | nil => rfl
  | cons r rs ih =>
    unfold parseAll
    simp only [Option.bind_eq_bind, Option.bind_none, Option.pure_def, Accept.bind_isSome ([] : List Interface),
      Accept.reject_else, Accept.then_then]
    split
    · rw [Option.getD_some, List.all_append, parseInterfaces_ok, ih]; rfl
    · rfl

theorem accepted_ifaceOK {c : RawConfig} {cfg : Config} (h : parseConfig c = some cfg) :
    ∀ i ∈ cfg.interfaces, Spec.C17.ifaceOK i = true := by
  unfold parseConfig at h
  simp only [Option.bind_eq_bind, Option.bind_none, Option.pure_def, Accept.bind_isSome ([] : List Interface),
    Accept.reject_else, ← apply_ite some, Accept.then_then, Option.ite_none_right_eq_some] at h
  obtain ⟨-, h⟩ := h
  cases h
  split <;> exact List.all_eq_true.mp (parseAll_ok c.interfaces [])

/-- **api_total / scrape_total for accepted configurations**: for every raw configuration the
    validator accepts and every assignment of lifecycle point, system state and sysctl read
    results to its interfaces, neither observation path panics. -/
theorem accepted_total {c : RawConfig} {cfg : Config} (h : parseConfig c = some cfg) (es : List IfEnv) :
    scrape Src.gen (cfg.interfaces.zip es) ≠ .panic ∧ api Src.gen (cfg.interfaces.zip es) ≠ .panic := by
  refine ⟨scrape_total _, api_total _ (fun x hx => ?_)⟩
  exact accepted_ifaceOK h x.1 (List.of_mem_zip hx).1

/-! ### gating -/

/-- **gating**, for a handler that registers the two optional routes under their flags:
    `/metrics` is served iff `debug.prometheus`, `/debug/pprof/…` iff `debug.pprof`; `/` and
    the interfaces API always; nothing else. -/
theorem gating_of (s : Src) (hm : s.metricsGated = true) (hp : s.pprofGated = true) (prometheus pprof : Bool) :
    (served s prometheus pprof .metrics = true ↔ prometheus = true) ∧
    (served s prometheus pprof .pprofIndex = true ↔ pprof = true) ∧
    (served s prometheus pprof .pprofCmdline = true ↔ pprof = true) ∧
    served s prometheus pprof .root = true ∧ served s prometheus pprof .interfaces = true ∧
    served s prometheus pprof .unknown = false := by
  simp [served, hm, hp]

/-- **gating** on the source as it is (through `gen_gated`). -/
theorem gating (prometheus pprof : Bool) :
    (served Src.gen prometheus pprof .metrics = true ↔ prometheus = true) ∧
    (served Src.gen prometheus pprof .pprofIndex = true ↔ pprof = true) ∧
    (served Src.gen prometheus pprof .pprofCmdline = true ↔ pprof = true) :=
  let h := gating_of Src.gen gen_gated.1 gen_gated.2 prometheus pprof
  ⟨h.1, h.2.1, h.2.2.1⟩

/-- the failure the gating facts exclude: an ungated route answers with the feature off -/
theorem ungated_served (s : Src) (pprof : Bool) (h : s.metricsGated = false) :
    served s false pprof .metrics = true := by
  simp [served, h]

/-! ### duplicate label sets (F-14) -/

theorem sameSeries_iff (a b : Sample) :
    sameSeries a b = true ↔ a.family = b.family ∧ a.labels = b.labels := by
  simp [sameSeries]

theorem sameSeries_false_of_family {a b : Sample} (h : a.family.id ≠ b.family.id) : sameSeries a b = false :=
  Bool.eq_false_iff.mpr fun hs => h (congrArg Family.id ((sameSeries_iff a b).mp hs).1)

theorem hasDup_false_iff (ss : List Sample) :
    Observe.hasDup ss = false ↔ ss.Pairwise (fun a b => sameSeries a b = false) := by
  induction ss with
  | nil => simp [Observe.hasDup]
  | cons x xs ih => simp [Observe.hasDup, ih]

theorem hasDup_append {a b : List Sample} (h : ∀ x ∈ a, ∀ y ∈ b, sameSeries x y = false) :
    Observe.hasDup (a ++ b) = (Observe.hasDup a || Observe.hasDup b) := by
  rw [Bool.eq_iff_iff]
  simp only [← Bool.not_eq_false, Bool.or_eq_false_iff, hasDup_false_iff, List.pairwise_append]
  exact not_congr ⟨fun h' => ⟨h'.1, h'.2.1⟩, fun h' => ⟨h'.1, h'.2, h⟩⟩

theorem not_pairwise_false_iff {R : α → α → Bool} (l : List α) :
    ¬ l.Pairwise (fun a b => R a b = false) ↔ ∃ a b, [a, b].Sublist l ∧ R a b = true := by
  rw [List.pairwise_iff_forall_sublist]
  constructor
  · intro h
    exact Classical.byContradiction fun hne => h fun {a b} hab =>
      Bool.eq_false_iff.mpr fun hr => hne ⟨a, b, hab, hr⟩
  · rintro ⟨a, b, hab, hr⟩ h
    exact Bool.eq_false_iff.mp (h hab) hr

theorem hasDup_iff (ss : List Sample) :
    Observe.hasDup ss = true ↔ ∃ a b, [a, b].Sublist ss ∧ sameSeries a b = true := by
  rw [← not_pairwise_false_iff, ← hasDup_false_iff, Bool.not_eq_false]

/-- **dup_labels_fail**: the gather fails iff two samples (at different positions) belong to one
    family and carry equal label values; it never panics, and otherwise returns every sample. -/
theorem dup_labels_fail (ss : List Sample) :
    gather ss = .error ↔ ∃ a b, [a, b].Sublist ss ∧ a.family = b.family ∧ a.labels = b.labels := by
  simp only [← sameSeries_iff, ← hasDup_iff, gather_eq]
  cases Observe.hasDup ss <;> simp [Result.ofOption]

theorem gather_ok_iff (ss out : List Sample) :
    gather ss = .ok out ↔ out = ss ∧ ss.Pairwise (fun a b => ¬ (a.family = b.family ∧ a.labels = b.labels)) := by
  simp only [← sameSeries_iff, Bool.not_eq_true, ← hasDup_false_iff, gather_eq]
  cases Observe.hasDup ss <;> simp [Result.ofOption, eq_comm]

/-- two options whose samples collide: the same kind with the same label — equal CIDR for two
    prefixes or two routes, equal server lists, equal domain lists -/
def optClash : Opt → Opt → Bool
  | .pi a l _ _ _ _, .pi a' l' _ _ _ _ => a == a' && l == l'
  | .ri a l _ _, .ri a' l' _ _ => a == a' && l == l'
  | .rdnss _ s, .rdnss _ s' => s == s'
  | .dnssl _ n, .dnssl _ n' => n == n'
  | _, _ => false

theorem optSamples_self (ck : CollectKinds) (name : Nat) (o : Opt) : Observe.hasDup (optSamples ck name o) = false := by
  cases o <;> simp only [optSamples] <;> (try split) <;> rfl

/-- samples of two options collide iff the options clash: different kinds report different
    families (evaluation), one kind compares the labels -/
theorem optSamples_cross (name : Nat) (o1 o2 : Opt) :
    (∀ x ∈ optSamples CollectKinds.all name o1, ∀ y ∈ optSamples CollectKinds.all name o2, sameSeries x y = false) ↔
      optClash o1 o2 = false := by
  have h : ((optSamples CollectKinds.all name o1).any fun x =>
      (optSamples CollectKinds.all name o2).any (sameSeries x)) = optClash o1 o2 := by
    -- an option of a kind that is not collected has no samples and clashes with nothing
    cases o1 <;> try rfl
    all_goals cases o2 <;> try rfl
    all_goals rw [Bool.eq_iff_iff]; simp [optSamples, CollectKinds.all, sameSeries, optClash]
  rw [← h]; simp

theorem options_dup_iff (name : Nat) (opts : List Opt) :
    Observe.hasDup (opts.flatMap (optSamples CollectKinds.all name)) = true ↔
      ∃ o1 o2, [o1, o2].Sublist opts ∧ optClash o1 o2 = true := by
  rw [← not_pairwise_false_iff, ← Bool.not_eq_false, hasDup_false_iff, List.pairwise_flatMap]
  simp only [optSamples_cross, ← hasDup_false_iff, optSamples_self, implies_true, true_and]

/-- **F-14's class, on one interface**: the samples of an interface collide iff its RA carries
    two options of the same kind with the same label (the gauges never collide). -/
theorem collect_dup_iff (ifi : Interface) (auto fw : Bool) (r : RA × Bool) :
    Observe.hasDup (collectMetrics CollectKinds.all ifi auto fw (some r)) = true ↔
      ∃ o1 o2, [o1, o2].Sublist r.1.options ∧ optClash o1 o2 = true := by
  have hopt : ∀ y ∈ r.1.options.flatMap (optSamples CollectKinds.all ifi.name), 5 ≤ y.family.id := fun y hy =>
    have ⟨_, _, hyo⟩ := List.mem_flatMap.mp hy
    (optSamples_family hyo).1
  rw [← options_dup_iff ifi.name, collectMetrics, hasDup_append, hasDup_append]
  · cases r.2 <;> rfl
  · intro x hx y hy
    exact sameSeries_false_of_family (by have := (misconfig_family hx).1; have := hopt y hy; omega)
  · intro x hx y hy
    have hx := (gauges_family hx).1
    rcases List.mem_append.mp hy with hy | hy
    · exact sameSeries_false_of_family (by have := (misconfig_family hy).1; omega)
    · exact sameSeries_false_of_family (by have := hopt y hy; omega)

/-- an interface that does not advertise never contributes a collision -/
theorem collect_none_nodup (ck : CollectKinds) (ifi : Interface) (auto fw : Bool) :
    Observe.hasDup (collectMetrics ck ifi auto fw none) = false :=
  rfl  -- four gauges of four families: every comparison stops at the family

theorem collect_ifaceOf {ck : CollectKinds} {ifi : Interface} {auto fw : Bool} {r : Option (RA × Bool)}
    {x : Sample} (hx : x ∈ collectMetrics ck ifi auto fw r) : x.labels.ifaceOf = ifi.name := by
  rcases List.mem_append.mp hx with hx | hx
  · exact (gauges_family hx).2
  · cases r with
    | none => exact nomatch hx
    | some r =>
      rcases List.mem_append.mp hx with hx | hx
      · exact (misconfig_family hx).2
      · have ⟨_, _, hxo⟩ := List.mem_flatMap.mp hx
        exact (optSamples_family hxo).2

theorem mirrorIface_ifaceOf {ck : CollectKinds} {ifi : Interface} {e : IfEnv} {part : List Sample}
    (h : mirrorIface ck ifi e = some part) : ∀ x ∈ part, x.labels.ifaceOf = ifi.name := by
  unfold mirrorIface at h
  split at h
  · split at h
    · obtain ⟨r, _, rfl⟩ := Option.map_eq_some_iff.mp h
      exact fun x hx => collect_ifaceOf hx
    · cases h; exact fun x hx => collect_ifaceOf hx
  · exact nomatch h

theorem mirrorAll_cons_eq_some {ck : CollectKinds} {ifi : Interface} {e : IfEnv}
    {rest : List (Interface × IfEnv)} {ss : List Sample} (h : mirrorAll ck ((ifi, e) :: rest) = some ss) :
    ∃ a b, mirrorIface ck ifi e = some a ∧ mirrorAll ck rest = some b ∧ ss = a ++ b := by
  rw [mirrorAll_cons] at h
  obtain ⟨a, ha, h⟩ := Option.bind_eq_some_iff.mp h
  obtain ⟨b, hb, h⟩ := Option.bind_eq_some_iff.mp h
  exact ⟨a, b, ha, hb, (Option.some.inj h).symm⟩

theorem mirrorAll_ifaceOf {ck : CollectKinds} {envs : List (Interface × IfEnv)} {ss : List Sample}
    (h : mirrorAll ck envs = some ss) : ∀ x ∈ ss, x.labels.ifaceOf ∈ envs.map (·.1.name) := by
  induction envs generalizing ss with
  | nil => cases h; exact fun _ hx => nomatch hx
  | cons y rest ih =>
    obtain ⟨a, b, hi, hr, rfl⟩ := mirrorAll_cons_eq_some h
    intro x hx
    rcases List.mem_append.mp hx with hx | hx
    · exact mirrorIface_ifaceOf hi x hx ▸ List.mem_cons_self
    · exact List.mem_cons_of_mem _ (ih hr x hx)

/-- **F-14's class, on a scrape**: interface names being distinct (the parser's uniqueness
    rule), the samples of a whole scrape collide iff those of some single interface do. -/
theorem scrape_dup_iff (ck : CollectKinds) (envs : List (Interface × IfEnv)) (ss : List Sample)
    (hn : (envs.map (·.1.name)).Nodup) (hm : mirrorAll ck envs = some ss) :
    Observe.hasDup ss = true ↔
      ∃ x ∈ envs, ∃ part, mirrorIface ck x.1 x.2 = some part ∧ Observe.hasDup part = true := by
  induction envs generalizing ss with
  | nil => cases hm; simp [Observe.hasDup]
  | cons y rest ih =>
    obtain ⟨a, b, hi, hr, rfl⟩ := mirrorAll_cons_eq_some hm
    rw [List.map_cons, List.nodup_cons] at hn
    rw [hasDup_append, Bool.or_eq_true, ih b hn.2 hr]
    · simp [hi]
    · intro x hx z hz
      refine Bool.eq_false_iff.mpr fun hs => hn.1 ?_
      rw [← mirrorIface_ifaceOf hi x hx, ((sameSeries_iff x z).mp hs).2]
      exact mirrorAll_ifaceOf hr z hz

/-! ### the oracle's declarative RA is the model's -/

/-- the per-stanza description of the oracle (C13/C14/C15 expansions, C16 lifetimes) is what
    `Apply` computes -/
theorem optionsOf_eq_apply (sys : SysState) (p : Plugin) : Spec.C17.optionsOf sys p = p.apply sys := by
  cases p with
  | pfx auto q ol au v pr dep =>
    -- `Spec.C01.lifetimeNow` and `Spec.C17.lifetimeNow` are the same term, so `rfl` closes the branches
    simp only [Spec.C17.optionsOf, Plugin.apply, Props.C01.prefixLifetimes_eq]
    cases auto
    · rfl
    · cases sys.addrs <;> rfl
  | route auto q pref lt dep =>
    simp only [Spec.C17.optionsOf, Plugin.apply, Props.C01.routeLifetime_eq]
    cases auto
    · rfl
    · cases sys.routes <;> rfl
  | rdnss auto lt servers =>
    simp only [Spec.C17.optionsOf, Plugin.apply, applyRDNSS]
    cases auto
    · rfl
    · cases sys.addrs with
      | none => rfl
      | some as => dsimp only [if_true]; cases currentRDNSS as <;> rfl
  | lla => simp only [Spec.C17.optionsOf, Plugin.apply]; cases sys.mac <;> rfl
  | dnssl _ _ | mtu _ | captivePortal _ _ | pref64 _ _ => rfl

theorem expectedOptions_eq (ifi : Interface) (sys : SysState) :
    Spec.C17.expectedOptions ifi sys = applyAll sys ifi.plugins := by
  unfold Spec.C17.expectedOptions
  induction ifi.plugins with
  | nil => rfl
  | cons p ps ih =>
    rw [applyAll_cons, ← ih, List.map_cons, optionsOf_eq_apply]
    cases p.apply sys with
    | none => rfl
    | some a => rw [Spec.C17.concatOpts]; cases Spec.C17.concatOpts _ <;> rfl

/-- for a parser-approved interface the oracle's expected RA and misconfiguration condition are
    those of `Interface.RouterAdvertisement` -/
theorem expectedRA_eq (ifi : Interface) (sys : SysState) (fw : Bool) (h : 0 ≤ ifi.defaultLifetime) :
    routerAdvertisement ifi sys fw =
      (Spec.C17.expectedRA ifi sys fw).map fun ra => (ra, Spec.C17.misconfigured ifi fw) := by
  rw [routerAdvertisement_eq, Spec.C17.expectedRA, expectedOptions_eq, Option.map_map]
  congr 1; funext opts
  cases fw
  · simp [finishRA_eq, zeroed_of_nonneg h, Spec.C17.misconfigured]
  · simp [finishRA_eq, Spec.C17.misconfigured]

theorem collect_eq_spec (ifi : Interface) (auto fw : Bool) (ra : RA) :
    collectMetrics CollectKinds.all ifi auto fw (some (ra, Spec.C17.misconfigured ifi fw)) =
      Spec.C17.ifaceSamples ifi auto fw (some ra) := by
  simp only [collectMetrics, gauges, Spec.C17.ifaceSamples]
  have : optSamples CollectKinds.all ifi.name = Spec.C17.optSeries ifi.name :=
    funext (optSamples_all ifi.name)
  rw [this]

/-! ### the model, on the sound source, meets the oracle the check evaluates -/

/-- the oracle's three expectations as a value and a licence to fail -/
def wantOf (o : Option α) (lax : Bool) : Spec.C17.Want α :=
  match o with
  | none => .mustErr
  | some a => if lax then .okOrErr a else .mustOk a

theorem wantOf_seq (o₁ : Option α) (o₂ : Option β) (l₁ l₂ : Bool) (f : α → β → β) :
    (wantOf o₁ l₁).seq f (wantOf o₂ l₂) =
      wantOf (o₁.bind fun a => o₂.bind fun b => some (f a b)) (l₁ || l₂) := by
  cases o₁ <;> cases o₂ <;> cases l₁ <;> cases l₂ <;> rfl

/-- the interface advertises but has never been initialised: the oracle tolerates an error -/
def unprepared (x : Interface × IfEnv) : Bool := x.1.advertise && !x.2.lifecycle.prepared

theorem wantIfaceSamples_eq (ifi : Interface) (e : IfEnv) (hok : 0 ≤ ifi.defaultLifetime) :
    Spec.C17.wantIfaceSamples ifi e =
      wantOf (if blocked (ifi, e) then none else mirrorIface CollectKinds.all ifi e) (unprepared (ifi, e)) := by
  unfold Spec.C17.wantIfaceSamples Spec.C17.wantRA mirrorIface blocked unprepared
  cases e.autoconf with
  | none => cases ifi.advertise && _ <;> rfl
  | some auto =>
    cases e.forwarding with
    | none => cases ifi.advertise && _ <;> rfl
    | some fw =>
      cases ifi.advertise with
      | false => rfl
      | true =>
        cases e.lifecycle.prepared <;>
          simp only [effSys, ↓reduceIte, Bool.true_and, Bool.false_eq_true, expectedRA_eq ifi _ fw hok,
            Option.map_map, Function.comp_def, collect_eq_spec]
        · cases ifi.plugins.any Spec.C17.needsSource with
          | true => rfl
          | false => cases Spec.C17.expectedRA ifi (unpreparedSys e.sys) fw <;> rfl
        · cases Spec.C17.expectedRA ifi e.sys fw <;> rfl

/-- what the oracle expects of a scrape, before the registry: the render of the current RAs,
    an error where an interface is blocked, either for an interface that never came up -/
theorem wantSamples_eq (envs : List (Interface × IfEnv)) (hok : ∀ x ∈ envs, 0 ≤ x.1.defaultLifetime) :
    Spec.C17.wantSamples envs =
      wantOf (if envs.any blocked then none else mirrorAll CollectKinds.all envs) (envs.any unprepared) := by
  induction envs with
  | nil => rfl
  | cons x rest ih =>
    obtain ⟨ifi, e⟩ := x
    rw [Spec.C17.wantSamples, wantIfaceSamples_eq ifi e (hok _ List.mem_cons_self),
      ih fun y hy => hok y (List.mem_cons_of_mem _ hy), wantOf_seq, mirrorAll_cons, List.any_cons, List.any_cons]
    cases blocked (ifi, e) <;> cases rest.any blocked <;> cases mirrorIface CollectKinds.all ifi e <;> rfl

theorem model_meets_oracle (envs : List (Interface × IfEnv)) (hok : ∀ x ∈ envs, 0 ≤ x.1.defaultLifetime) :
    match scrape Src.sound envs with
    | .ok ss => (Spec.C17.holdsScrape envs "ok" ss).1 = true
    | .error => (Spec.C17.holdsScrape envs "err" []).1 = true ∨
        ∃ ss, Spec.C17.wantSamples envs = .mustOk ss ∧ Spec.C17.dupClass ss = true
    | .panic => False := by
  have hw := wantSamples_eq envs hok
  rw [(scrape_follows Src.sound envs).eq fun h => h.1 rfl, show Src.sound.collect = CollectKinds.all from rfl]
  generalize envs.any blocked = b at hw ⊢
  generalize mirrorAll CollectKinds.all envs = m at hw ⊢
  generalize envs.any unprepared = lax at hw
  cases b with
  | true => exact Or.inl (by simp [Spec.C17.holdsScrape, hw, wantOf])
  | false =>
    cases m with
    | none => exact Or.inl (by simp [Spec.C17.holdsScrape, hw, wantOf])
    | some a =>
      cases hd : Observe.hasDup a <;> cases lax <;>
        simp [Result.ofOption, hd, Spec.C17.holdsScrape, hw, wantOf, Spec.C17.dupClass]

/-! ### the four configuration classes of F-14 (all accepted by the parser) -/

/-- two DNSSL stanzas with the same names -/
example : optClash (.dnssl (30 * minute) [1, 2]) (.dnssl hour [1, 2]) = true := by decide
/-- two RDNSS stanzas with the same servers -/
example : optClash (.rdnss (30 * minute) [{ val := 83 }]) (.rdnss hour [{ val := 83 }]) = true := by decide
/-- `::/64` expanding onto a static prefix -/
example : optClash (.pi { val := 2^64 } 64 true true hour hour) (.pi { val := 2^64 } 64 true false hour hour) = true := by
  decide
/-- two `::/0` stanzas expanding onto the same loopback route -/
example : optClash (.ri { val := 2^80 } 48 prefMedium hour) (.ri { val := 2^80 } 48 prefHigh hour) = true := by
  decide

/-- a whole scrape of such a configuration fails although the interface is up, readable and
    its RA can be generated — and it fails on *every* scrape (the model is a function) -/
example :
    scrape Src.sound [({ name := 1, advertise := true, defaultLifetime := 1800 * second,
                         plugins := [.dnssl hour [1, 2], .dnssl (2 * hour) [1, 2]] }, {})] = .error := by
  decide

/-! ### non-vacuity -/

/-- the minimal configuration, never initialised, on the sound source: an error, not a panic -/
example : scrape Src.sound [(minimalIface, { lifecycle := .never })] = .error := by decide

/-- a static configuration, never initialised: a result (without the link-layer address) -/
example :
    api Src.sound [({ name := 1, advertise := true, hopLimit := 64, defaultLifetime := 1800 * second,
                      plugins := [.mtu 1500, .lla, .pref64 { addr := { val := 2^96 }, bits := 96 } (1800 * second)] },
                    { lifecycle := .never, sys := { mac := some (6, 1) } })] =
      .ok [{ name := 1, advertise := true,
             advertisement := some { hopLimit := 64, managed := false, other := false, preference := 0,
                                     routerLifetimeSeconds := 1800, reachableMs := 0, retransmitMs := 0,
                                     options := { mtu := 1500, pref64 := [({ addr := { val := 2^96 }, bits := 96 }, 1800)] } } }] := by
  decide

/-- initialised, not forwarding: the misconfiguration gauge, router lifetime 0 in the API -/
example :
    (scrape Src.sound [({ name := 1, advertise := true, defaultLifetime := 1800 * second, plugins := [] },
                        { forwarding := some false })]) =
      .ok [⟨.advertising, .iface 1, second⟩, ⟨.monitoring, .iface 1, 0⟩, ⟨.autoconfiguration, .iface 1, 0⟩,
           ⟨.forwarding, .iface 1, 0⟩, ⟨.misconfiguration, .details 1, second⟩] := by
  decide

/-- `ifaceOK` is satisfiable by an interface with a route (hypothesis of `api_total`) -/
example : Spec.C17.ifaceOK { minimalIface with plugins := [.route false { addr := { val := 2^80 }, bits := 48 } prefHigh hour false] } = true := by
  decide

end Corerad.Props.C17
