/-
  C06 / C07 — independence of the two kinds of traffic and of their interleaving.

  The scheduler consumes requests in the order they arrive on `ipC`; the listener and the
  multicast loop are separate goroutines, so the *relative* order of a unicast request and a
  multicast request arriving together is up to the Go scheduler.  These theorems show that this
  order cannot matter: the multicast transmissions are a function of the multicast requests
  alone, the unicast transmissions of the unicast requests (and their draws) alone.  Hence any
  two arrival orders that agree on the multicast subsequence give the same multicast
  transmissions, and any two that agree on the unicast subsequence give the same unicast
  transmissions — for every history, every draw sequence, every minimum delay, both modes.
-/
import Corerad.Props.C07

namespace Corerad.Props.C06Order

open Corerad Corerad.Model

def isMc : Time × Req → Bool
  | (_, .mc) => true
  | _ => false

def isUc (p : Time × Req) : Bool := !isMc p

/-- Multicast transmissions do not depend on the unicast requests interleaved with the
    multicast ones, nor on the jitter drawn for them. -/
theorem mc_independent_of_unicast (md : Dur) (uo : Bool) :
    ∀ (reqs : List (Time × Req)) (s : SchedState) (draws draws' : List Int),
      mcSends (schedule md uo s reqs draws) = mcSends (schedule md uo s (reqs.filter isMc) draws')
  | [], _, _, _ => by simp
  | (t, .uc h) :: rest, s, draws, draws' => by
    rw [mcSends_schedule_uc, List.filter_cons_of_neg (by simp [isMc])]
    exact mc_independent_of_unicast md uo rest s draws.tail draws'
  | (t, .mc) :: rest, s, draws, draws' => by
    rw [List.filter_cons_of_pos (by simp [isMc]), mcSends_schedule_mc, mcSends_schedule_mc,
      mc_independent_of_unicast md uo rest s draws draws',
      mc_independent_of_unicast md uo rest ⟨max t (s.next + md)⟩ draws draws']

/-- Two arrival orders with the same multicast subsequence give the same multicast
    transmissions (whatever unicast traffic is interleaved, however). -/
theorem mc_interleaving_invariant (md : Dur) (uo : Bool) (s : SchedState)
    (reqs reqs' : List (Time × Req)) (draws draws' : List Int)
    (h : reqs.filter isMc = reqs'.filter isMc) :
    mcSends (schedule md uo s reqs draws) = mcSends (schedule md uo s reqs' draws') := by
  rw [mc_independent_of_unicast md uo reqs s draws [], mc_independent_of_unicast md uo reqs' s draws' [], h]

theorem ucExpected_filter : ∀ (reqs : List (Time × Req)) (draws : List Int),
    C07.ucExpected (reqs.filter isUc) draws = C07.ucExpected reqs draws
  | [], _ => rfl
  | (_, .mc) :: rest, draws => ucExpected_filter rest draws
  | (t, .uc h) :: rest, draws => congrArg ((t, h, draws.headD 0) :: ·) (ucExpected_filter rest draws.tail)

/-- Two arrival orders with the same unicast subsequence (and the same draws) give the same
    unicast transmissions. -/
theorem uc_interleaving_invariant (md : Dur) (uo uo' : Bool) (s s' : SchedState)
    (reqs reqs' : List (Time × Req)) (draws : List Int)
    (h : reqs.filter isUc = reqs'.filter isUc) :
    ucSends (schedule md uo s reqs draws) = ucSends (schedule md uo' s' reqs' draws) := by
  rw [C07.unicast_exactly_once, C07.unicast_exactly_once, ← ucExpected_filter reqs, h, ucExpected_filter]

/-- Non-vacuity: a solicitation from host 7 and a periodic tick arriving at the same instant, in
    either order: same multicast and same unicast transmissions. -/
example :
    let a := [((5 : Time) * second, Req.uc 7), (5 * second, Req.mc)]
    let b := [((5 : Time) * second, Req.mc), (5 * second, Req.uc 7)]
    mcSends (schedule (3 * second) false { next := 0 } a [9]) = [5 * second] ∧
    mcSends (schedule (3 * second) false { next := 0 } b [9]) = [5 * second] ∧
    ucSends (schedule (3 * second) false { next := 0 } a [9]) = [(5 * second + 9, 7)] ∧
    ucSends (schedule (3 * second) false { next := 0 } b [9]) = [(5 * second + 9, 7)] := by
  decide

end Corerad.Props.C06Order
