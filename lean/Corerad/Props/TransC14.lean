/-
  TransC14 — `betterRDNSS` / `isStable` (internal/plugin/plugin.go) tied to `Model/Wild.lean` by
  REGENERATION.

  1. Both functions are re-translated from the current source text into `Corerad.Gen.Trans` on
     every run (tools/extract/translate.go + translate_ext.go).  `system.IP` and `netip.Addr` are
     abstract types of the translation; what the functions read of them — the Boolean fields
     `ValidForever`, `ManageTemporaryAddresses`, `StablePrivacy`, `Address.IsValid()`,
     `Address.Addr()`, the class predicates `IsPrivate`, `IsGlobalUnicast`, `IsLinkLocalUnicast`
     and the order `Less` — are uninterpreted function parameters; the
     `for _, fn := range []func(netip.Addr) bool{…}` loop is unrolled in source order.  The
     theorems below instantiate the parameters with the model's functions and state equality with
     `Model.isStable` / `Model.betterRDNSS` for all inputs: reordering the class predicates,
     swapping the flag comparison and the class comparison, flipping a polarity or the tie-break
     changes the translated definition and the proof stops checking.
  2. `Corerad.Gen.Plugin` (tools/extract/better.go) carries the same decision structure in printed
     form, plus what the translation abstracts: `isEUI64` (`Model.isEUI64` reads bytes 11 and 12)
     and the fold of `(*RDNSS).current` (`best = betterRDNSS(best, a)` over the addresses that
     pass the exclusion test `Model.rdnssEligible`).  The `gen_*` lemmas pin them.
-/
import Corerad.Gen.Trans
import Corerad.Gen.Plugin
import Corerad.Model.Wild
import Corerad.Lemmas.LoopFold
import Corerad.Props.C14

namespace Corerad.Props.TransC14

/- No `gen_*` lemma asserts the printed statements of `betterRDNSS`: `betterRDNSS_equiv` says more. -/

open Corerad Corerad.Model

/-! ### 1. the translated functions -/

/-- `isStable(ip)` as translated, read over the model's `SysIP`, is `Model.isStable`. -/
theorem isStable_equiv (a : SysIP) :
    Gen.Trans.isStable (ip := a) (ValidForever := fun x => x.validForever)
        (ManageTemporaryAddresses := fun x => x.manageTemp) (StablePrivacy := fun x => x.stablePrivacy)
        (Address_Addr := fun x => x.addr.addr) (isEUI64 := Model.isEUI64)
      = Model.isStable a := by
  -- the same four terms, in whatever order the source lists them
  simp [Gen.Trans.isStable, Model.isStable, Bool.or_assoc, Bool.or_comm, Bool.or_left_comm]

/-- `betterRDNSS(best, current)` as translated, read over the model's `SysIP` / `IP`, is
    `Model.betterRDNSS` (flag comparison first, then the three address classes in source order,
    lesser address on a tie and when no class matches). -/
theorem betterRDNSS_equiv (best cur : SysIP) :
    Gen.Trans.betterRDNSS (best := best) (current := cur)
        (Address_IsValid := fun x => x.addr.isValid) (isStable := Model.isStable)
        (Address_Addr := fun x => x.addr.addr)
        (IsPrivate := IP.isPrivate) (IsGlobalUnicast := IP.isGlobalUnicast)
        (IsLinkLocalUnicast := IP.isLinkLocalUnicast) (Less := IP.less)
      = Model.betterRDNSS best cur := by
  simp only [Gen.Trans.betterRDNSS, Model.betterRDNSS, Props.C14.gen_ranking, rankLoop, rankPred]
  -- both sides are decision trees over the same ten tests, which the source may order differently:
  -- compare them on every valuation
  generalize best.addr.isValid = bv
  generalize Model.isStable cur = sc
  generalize Model.isStable best = sb
  generalize cur.addr.addr.isPrivate = c1
  generalize best.addr.addr.isPrivate = b1
  generalize cur.addr.addr.isGlobalUnicast = c2
  generalize best.addr.addr.isGlobalUnicast = b2
  generalize cur.addr.addr.isLinkLocalUnicast = c3
  generalize best.addr.addr.isLinkLocalUnicast = b3
  generalize cur.addr.addr.less best.addr.addr = l
  cases bv <;> cases sc <;> cases sb <;> (try simp) <;>
    cases c1 <;> cases b1 <;> (try simp) <;>
    cases c2 <;> cases b2 <;> (try simp) <;>
    cases c3 <;> cases b3 <;> (try simp) <;> cases l <;> (try simp)

/-- …also with the translated `isStable` plugged into the translated `betterRDNSS`: the pair of
    translations equals the model, with only `isEUI64` and the `netip` predicates left abstract. -/
theorem betterRDNSS_full_equiv (best cur : SysIP) :
    Gen.Trans.betterRDNSS (best := best) (current := cur)
        (Address_IsValid := fun x => x.addr.isValid)
        (isStable := fun x => Gen.Trans.isStable (ip := x) (ValidForever := fun x => x.validForever)
          (ManageTemporaryAddresses := fun x => x.manageTemp) (StablePrivacy := fun x => x.stablePrivacy)
          (Address_Addr := fun x => x.addr.addr) (isEUI64 := Model.isEUI64))
        (Address_Addr := fun x => x.addr.addr)
        (IsPrivate := IP.isPrivate) (IsGlobalUnicast := IP.isGlobalUnicast)
        (IsLinkLocalUnicast := IP.isLinkLocalUnicast) (Less := IP.less)
      = Model.betterRDNSS best cur := by
  simp only [isStable_equiv]
  exact betterRDNSS_equiv best cur

/-- whatever the abstract types and predicates are, the translated function returns one of its
    two arguments: what holds of both holds of the result -/
theorem betterRDNSS_cases {IPRec Addr : Type} (P : IPRec → Prop) (best current : IPRec)
    (valid stable : IPRec → Bool) (addr : IPRec → Addr) (p g l : Addr → Bool) (less : Addr → Addr → Bool)
    (hb : P best) (hc : P current) :
    P (Gen.Trans.betterRDNSS (best := best) (current := current) (Address_IsValid := valid)
        (isStable := stable) (Address_Addr := addr) (IsPrivate := p) (IsGlobalUnicast := g)
        (IsLinkLocalUnicast := l) (Less := less)) := by
  have ite {c : Prop} [Decidable c] {x y : IPRec} (hx : P x) (hy : P y) : P (if c then x else y) := by
    split <;> assumption
  unfold Gen.Trans.betterRDNSS
  -- every leaf of the nested conditionals is `best` or `current`
  repeat' apply ite
  all_goals assumption

theorem betterRDNSS_selects {IPRec Addr : Type} (best current : IPRec) (valid stable : IPRec → Bool)
    (addr : IPRec → Addr) (p g l : Addr → Bool) (less : Addr → Addr → Bool) :
    Gen.Trans.betterRDNSS (best := best) (current := current) (Address_IsValid := valid)
        (isStable := stable) (Address_Addr := addr) (IsPrivate := p) (IsGlobalUnicast := g)
        (IsLinkLocalUnicast := l) (Less := less) = best ∨
    Gen.Trans.betterRDNSS (best := best) (current := current) (Address_IsValid := valid)
        (isStable := stable) (Address_Addr := addr) (IsPrivate := p) (IsGlobalUnicast := g)
        (IsLinkLocalUnicast := l) (Less := less) = current :=
  betterRDNSS_cases (fun r => r = best ∨ r = current) best current valid stable addr p g l less
    (.inl rfl) (.inr rfl)

/-- non-trivial instances, evaluated on both sides: a stable link-local address beats an unstable
    ULA; among equally (un)stable addresses ULA beats GUA beats link-local; on a class tie the
    lesser address wins; an invalid `best` always loses -/
example :
    let ula : SysIP := { addr := { addr := { val := 0xfd000000000000000000000000000001 }, bits := 64 } }
    let ula2 : SysIP := { addr := { addr := { val := 0xfd000000000000000000000000000002 }, bits := 64 } }
    let gua : SysIP := { addr := { addr := { val := 0x20010db8000000000000000000000001 }, bits := 64 } }
    let lla : SysIP := { addr := { addr := { val := 0xfe800000000000000000000000000001 }, bits := 64 } }
    let llaS : SysIP := { lla with validForever := true }
    let f (b c : SysIP) : SysIP :=
      Gen.Trans.betterRDNSS (best := b) (current := c) (Address_IsValid := fun x => x.addr.isValid)
        (isStable := Model.isStable) (Address_Addr := fun x => x.addr.addr) (IsPrivate := IP.isPrivate)
        (IsGlobalUnicast := IP.isGlobalUnicast) (IsLinkLocalUnicast := IP.isLinkLocalUnicast) (Less := IP.less)
    f ula llaS = llaS ∧ f llaS ula = llaS ∧ f gua ula = ula ∧ f ula gua = ula ∧ f lla gua = gua ∧
    f ula2 ula = ula ∧ f ula ula2 = ula ∧ f SysIP.zero lla = lla ∧
    Model.betterRDNSS ula llaS = llaS ∧ Model.betterRDNSS gua ula = ula ∧ Model.betterRDNSS ula2 ula = ula := by
  decide

/-! ### 2. regenerated decision structure (printed) -/

/-- the address classes, in order of preference (`Gen.Plugin.rdnssRanking` is the same list
    without the receiver type) -/
theorem gen_better_classes :
    Gen.Plugin.betterLoopHeader = "for _, fn := range []func(netip.Addr) bool" ∧
    Gen.Plugin.betterLoopElems =
      ["(netip.Addr).IsPrivate", "(netip.Addr).IsGlobalUnicast", "(netip.Addr).IsLinkLocalUnicast"] ∧
    Gen.Plugin.rdnssRanking = ["IsPrivate", "IsGlobalUnicast", "IsLinkLocalUnicast"] ∧
    Gen.Plugin.rdnssRankingCodes = [0, 1, 2] :=
  ⟨rfl, rfl, rfl, Props.C14.gen_ranking⟩

/-- `isStable`: the disjunction of `Model.isStable`, and `isEUI64` = bytes 11, 12 are ff:fe
    (`Model.isEUI64`) -/
theorem gen_isStable :
    Gen.Plugin.isStableTerms =
      ["false", "ip.ValidForever", "ip.ManageTemporaryAddresses", "ip.StablePrivacy", "isEUI64(ip.Address.Addr())"] ∧
    Gen.Plugin.isEUI64Body = ["b := ip.As16()", "return b[11] == 0xff && b[12] == 0xfe"] :=
  ⟨rfl, rfl⟩

/-! ### 3. `(*RDNSS).current` — the fold, translated (tools/extract/translate_loop.go)

No `gen_*` lemma asserts the printed body of the function (`Gen.Plugin.rdnssCurrentBody`): the loop
is re-translated into `Gen.Trans.RDNSS_current`, a left fold with the loop-carried `best` as its
state. -/

/-- **`(*RDNSS).current()` as translated from the source is `Model.currentRDNSS`**, for every
    address list: the loop that skips IPv4 / deprecated / temporary / tentative addresses and folds
    `betterRDNSS` from the zero `system.IP` (accumulator first), an invalid result being the error
    "interface has no usable IPv6 addresses".  The comparison function is left abstract here … -/
theorem RDNSS_current_equiv_gen (as : List SysIP) (better : SysIP → SysIP → SysIP) :
    Gen.Trans.RDNSS_current (Pfx := Prefix) (recv_Addrs := some as) (zero_IPRec := SysIP.zero)
        (IP_Address := fun a => a.addr) (Prefix_Addr := fun p => p.addr) (Addr_Is4 := IP.is4)
        (IP_Deprecated := fun a => a.deprecated) (IP_Temporary := fun a => a.temporary)
        (IP_Tentative := fun a => a.tentative) (betterRDNSS := better) (Addr_IsValid := fun a => a.valid)
      = (let best := (as.filter rdnssEligible).foldl better SysIP.zero
         if best.addr.addr.valid then some best.addr.addr else none) := by
  unfold Gen.Trans.RDNSS_current
  simp only []
  -- `rdnssEligible` is the negation of the loop's exclusion test as written
  rw [Corerad.Lemmas.LoopFold.foldl_skip,
    show (fun a : SysIP => !(((a.addr.addr.is4 || a.deprecated) || a.temporary) || a.tentative))
      = rdnssEligible from rfl]
  cases ((as.filter rdnssEligible).foldl better SysIP.zero).addr.addr.valid <;> simp

/-- … and with the TRANSLATED `betterRDNSS` (itself containing the translated `isStable`) plugged in,
    the whole wildcard choice as read from the source equals the model. -/
theorem RDNSS_current_equiv (as : List SysIP) :
    Gen.Trans.RDNSS_current (Pfx := Prefix) (recv_Addrs := some as) (zero_IPRec := SysIP.zero)
        (IP_Address := fun a => a.addr) (Prefix_Addr := fun p => p.addr) (Addr_Is4 := IP.is4)
        (IP_Deprecated := fun a => a.deprecated) (IP_Temporary := fun a => a.temporary)
        (IP_Tentative := fun a => a.tentative)
        (betterRDNSS := fun b c =>
          Gen.Trans.betterRDNSS (best := b) (current := c) (Address_IsValid := fun x => x.addr.isValid)
            (isStable := fun x => Gen.Trans.isStable (ip := x) (ValidForever := fun x => x.validForever)
              (ManageTemporaryAddresses := fun x => x.manageTemp) (StablePrivacy := fun x => x.stablePrivacy)
              (Address_Addr := fun x => x.addr.addr) (isEUI64 := Model.isEUI64))
            (Address_Addr := fun x => x.addr.addr) (IsPrivate := IP.isPrivate)
            (IsGlobalUnicast := IP.isGlobalUnicast) (IsLinkLocalUnicast := IP.isLinkLocalUnicast)
            (Less := IP.less))
        (Addr_IsValid := fun a => a.valid)
      = Model.currentRDNSS as := by
  simp only [betterRDNSS_full_equiv, RDNSS_current_equiv_gen]
  rfl

/-- an error from the address source is an error of the choice (RA generation fails) -/
theorem RDNSS_current_error {IPRec Addr Pfx : Type} (z : IPRec) (ia : IPRec → Pfx) (pa : Pfx → Addr)
    (i4 : Addr → Bool) (d t n : IPRec → Bool) (b : IPRec → IPRec → IPRec) (v : Addr → Bool) :
    Gen.Trans.RDNSS_current (recv_Addrs := none) (zero_IPRec := z) (IP_Address := ia) (Prefix_Addr := pa)
        (Addr_Is4 := i4) (IP_Deprecated := d) (IP_Temporary := t) (IP_Tentative := n) (betterRDNSS := b)
        (Addr_IsValid := v) = none := rfl

/-- non-vacuity: a deprecated ULA, a tentative GUA, an eligible GUA and an eligible link-local → the GUA -/
example :
    Gen.Trans.RDNSS_current (Pfx := Prefix)
        (recv_Addrs := some [
          ({ addr := ⟨{ val := 0xfd000000000000000000000000000001 }, 64⟩, deprecated := true } : SysIP),
          { addr := ⟨{ val := 0x20010db8000000000000000000000001 }, 64⟩, tentative := true },
          { addr := ⟨{ val := 0xfe800000000000000000000000000001 }, 64⟩ },
          { addr := ⟨{ val := 0x20010db8000000000000000000000002 }, 64⟩ } ])
        (zero_IPRec := SysIP.zero)
        (IP_Address := fun a => a.addr) (Prefix_Addr := fun p => p.addr) (Addr_Is4 := IP.is4)
        (IP_Deprecated := fun a => a.deprecated) (IP_Temporary := fun a => a.temporary)
        (IP_Tentative := fun a => a.tentative) (betterRDNSS := Model.betterRDNSS)
        (Addr_IsValid := fun a => a.valid)
      = some { val := 0x20010db8000000000000000000000002 } := by
  decide +kernel

end Corerad.Props.TransC14
