/-
  C20 — server supervision: one task per interface, fail together, stop on signal.

  The trace theorems quantify over every trace of the transition system of `Serve`
  (Model/Server.lean; DESIGN Appendix B.3): any number `n` of caller tasks, any behaviour of
  each task (which of its enabled events happens, and when, is the environment's choice), any
  number of signals at any point.  A trace is a list of events `tr` with
  `run? (init n) tr = some st`; "X at this position is preceded by Y" is written
  `tr = pre ++ X :: post → Y ∈ pre`.  Each proof reads the guard of the event at that position and
  a clause of the invariant `Inv` of Lemmas/Server.lean, which holds of the state before it.

  The order `t.t.set(sig)` → `Notify(Stopping)` → `t.cancel()` inside `signalTask.Run` is not
  written in the model: it is read from `Gen.Server` (regenerated from /repo on every check), so
  `gen_setBeforeCancel` and every theorem that needs the order stop checking when the source
  changes it.

  Residue (not theorems): which interleavings the Go runtime can produce; data-race freedom of
  the terminator (a `sync.Mutex`); `serve`'s HTTP listener retry loop (real sockets; its constant
  is tied by `gen_serveAttempts` only).
-/
import Corerad.Lemmas.Server
import Corerad.Gen.Main

namespace Corerad.Props.C20

open Corerad Corerad.Model.Server Corerad.Spec.C20

/-! ### regenerated facts -/

/-- `BuildTasks` wires every interface task as the properties assume (argument expressions of
    the calls, regenerated): the link-state channel is the watcher's subscription for *this*
    interface's `LinkDown` events and is the one handed to the task, the dialer is created for this
    interface in the task's mode with the server's shared state, and the advertiser's terminate
    function is the server's terminator. -/
theorem gen_build_wiring :
    Gen.Server.subscribeArgs = ["ifi.Name", "netstate.LinkDown"] ∧
    Gen.Server.newAdvertiserArgs = ["s.cctx", "ifi", "dialer", "watchC", "s.t.terminate"] ∧
    Gen.Server.newMonitorArgs = ["s.cctx", "ifi.Name", "dialer", "watchC", "ifi.Verbose"] ∧
    Gen.Server.advDialerArgs = ["ifi.Name", "s.cctx.state", "system.Advertise", "s.cctx.ll"] ∧
    Gen.Server.monDialerArgs = ["ifi.Name", "s.cctx.state", "system.Monitor", "s.cctx.ll"] :=
  ⟨rfl, rfl, rfl, rfl, rfl⟩

/-- How main uses the server: `Serve` runs exactly the tasks `BuildTasks` derives from the parsed
    configuration, and the signals which stop it are `Signals()` = SIGINT, SIGTERM, SIGHUP. -/
theorem gen_main_serves_built_tasks :
    Gen.Main.serveRunsBuildTasks = true ∧ Gen.Main.signalsFromSignals = true ∧
    Gen.Main.signalChanBuffered = true ∧
    Gen.Main.signals = ["os.Interrupt", "syscall.SIGTERM", "syscall.SIGHUP"] := ⟨rfl, rfl, rfl, rfl⟩

/-- `signalTask.Run`: `t.t.set(sig)` precedes `t.cancel()` -/
theorem gen_setBeforeCancel : Gen.Server.signalSetBeforeCancel = true := by decide

/-- `signalTask.Run`: `Notify(…, Stopping)` precedes `t.cancel()` -/
theorem gen_notifyBeforeCancel : Gen.Server.signalNotifyBeforeCancel = true := by decide

/-- `terminator.set`: `t.term = isTerminal(s)` -/
theorem gen_termIsIsTerminal : Gen.Server.termIsIsTerminal = true := by decide

/-- `isTerminal` returns `s != syscall.SIGHUP` -/
theorem gen_isTerminalExpr : Gen.Server.isTerminalExpr = "s != syscall.SIGHUP" := rfl

/-- `Serve` calls `eg.Wait()` (all tasks) and `wg.Wait()` (before READY) -/
theorem gen_serveWaitsAll : Gen.Server.serveWaitsAll = true := by decide

/-- `serve`: 40 listen attempts (residue: the loop itself is not exercised) -/
theorem gen_serveAttempts : Gen.Server.serveAttempts = 40 := by decide

/-! ### BuildTasks -/

private theorem ifaceTasks_eq (i : Nat) (ifs : List IfaceKind) :
    ifaceTasks i ifs = (ifs.zipIdx i).filterMap fun p =>
      match p.1 with
      | .adv => some (TaskKind.advertiser p.2)
      | .mon => some (TaskKind.monitor p.2)
      | .neither => none := by
  induction ifs generalizing i with
  | nil => simp [ifaceTasks]
  | cons k r ih => cases k <;> simp [ifaceTasks, List.zipIdx_cons, ih]

/-- The task list is exactly: per interface in configuration order an advertiser (`Advertise`)
    or a monitor (`Monitor`) carrying that interface's index and nothing for an interface that
    does neither; then the debug HTTP task iff an address is configured; then the link watcher
    (iff the server has one — `NewServer` always creates it). -/
theorem tasks_exact (ifs : List IfaceKind) (debug watcher : Bool) :
    buildTasks ifs debug watcher = wantTasks ifs debug watcher := by
  simp only [buildTasks, wantTasks, ifaceTasks_eq]
  rfl

private theorem ifaceTasks_length (i : Nat) (ifs : List IfaceKind) :
    (ifaceTasks i ifs).length = (ifs.filter (· ≠ .neither)).length := by
  induction ifs generalizing i with
  | nil => simp [ifaceTasks]
  | cons k r ih => cases k <;> simp [ifaceTasks, ih]

/-- …so there are as many tasks as interfaces that advertise or monitor, plus one for the debug
    server when configured, plus one for the watcher. -/
theorem tasks_count (ifs : List IfaceKind) (debug watcher : Bool) :
    (buildTasks ifs debug watcher).length =
      (ifs.filter (· ≠ .neither)).length + (if debug then 1 else 0) + (if watcher then 1 else 0) := by
  cases debug <;> cases watcher <;> simp [buildTasks, ifaceTasks_length]

/-- Interface `i` gets an advertiser iff it advertises, a monitor iff it monitors — and an
    interface that does neither gets no task at all. -/
theorem tasks_per_interface (ifs : List IfaceKind) (debug watcher : Bool) (i : Nat) :
    (TaskKind.advertiser i ∈ buildTasks ifs debug watcher ↔ ifs[i]? = some .adv) ∧
    (TaskKind.monitor i ∈ buildTasks ifs debug watcher ↔ ifs[i]? = some .mon) ∧
    (TaskKind.http ∈ buildTasks ifs debug watcher ↔ debug = true) ∧
    (TaskKind.watcher ∈ buildTasks ifs debug watcher ↔ watcher = true) := by
  have mem (t : TaskKind) : t ∈ ifaceTasks 0 ifs ↔
      ∃ j, (ifs[j]? = some .adv ∧ t = .advertiser j) ∨ (ifs[j]? = some .mon ∧ t = .monitor j) := by
    simp only [ifaceTasks_eq, List.mem_filterMap, Prod.exists, List.mk_mem_zipIdx_iff_getElem?]
    constructor
    · rintro ⟨k, j, hj, h⟩
      cases k <;> simp at h <;> exact ⟨j, by simp [hj, h]⟩
    · rintro ⟨j, ⟨hj, rfl⟩ | ⟨hj, rfl⟩⟩ <;> exact ⟨_, j, hj, rfl⟩
  simp [buildTasks, mem]

/-! ### a failure cancels everything -/

/-- After any task has failed the shared context is done — in every later state of every run. -/
theorem fail_cancels_all {n : Nat} {tr : List Event} {st : State}
    (h : run? (init n) tr = some st) {k : Nat} (hk : Event.fail k ∈ tr) : st.ctxDone = true :=
  (inv_of_run h).ctx.mpr (.inl ⟨k, hk⟩)

/-- …and once it is done, every task that is still running can see it: `observeCancel` is
    enabled (with the value `terminate()` has at that moment). -/
theorem cancelled_enables_observe {st : State} (hc : st.ctxDone = true) {k : Nat} {t : Task}
    (hk : st.tasks[k]? = some t) (hr : t.pc = .running) :
    step? st (.observeCancel k st.terminate) = some (setPc st k t .sawCancel) := by
  simp [step?, hk, hr, hc]

/-- A task sees a cancellation only with a cause: some task failed before, or the signal task
    called `cancel()` before. -/
theorem observe_has_cause {n : Nat} {pre post : List Event} {k : Nat} {b : Bool} {st : State}
    (h : run? (init n) (pre ++ .observeCancel k b :: post) = some st) :
    (∃ j, Event.fail j ∈ pre) ∨ Event.cancel ∈ pre := by
  obtain ⟨s1, s2, _, hi, hs, _⟩ := run_at h
  cases hs with
  | observeCancel _ _ hc _ => exact hi.ctx.mp hc

/-! ### Serve returns last, and returns the first error -/

/-- `serveReturn` is preceded by the return of every one of the `n` tasks. -/
theorem return_after_all {n : Nat} {pre post : List Event} {e : Option Nat} {st : State}
    (h : run? (init n) (pre ++ .serveReturn e :: post) = some st) :
    ∀ k, k < n → Exited k pre := by
  obtain ⟨s1, s2, _, hi, hs, _⟩ := run_at h
  intro k hk
  cases hs with
  | serveReturn _ hall _ =>
    obtain ⟨t, ht, hr⟩ := Model.all_getElem? hall (k := k) (by rw [hi.len]; exact hk)
    exact (hi.tasks k t ht).2 hr

/-- `Serve` returns the first error recorded: the error of the first task whose `Run` returned
    non-nil — whether it failed on its own or returned an error after a shutdown signal had
    already cancelled it — and nil if there is none (errgroup: `Wait` returns the first non-nil
    error). -/
theorem first_error_returned {n : Nat} {pre post : List Event} {e : Option Nat} {st : State}
    (h : run? (init n) (pre ++ .serveReturn e :: post) = some st) : e = firstErrOf pre := by
  obtain ⟨s1, s2, _, hi, hs, _⟩ := run_at h
  cases hs with
  | serveReturn _ _ _ => exact hi.ferr

/-- `Serve` returns at most once. -/
theorem serve_returns_once {n : Nat} {pre post : List Event} {e e' : Option Nat} {st : State}
    (h : run? (init n) (pre ++ .serveReturn e :: post) = some st) : Event.serveReturn e' ∉ post := by
  intro hm
  obtain ⟨p1, p2, rfl⟩ := List.append_of_mem hm
  rw [← List.cons_append, ← List.append_assoc] at h
  obtain ⟨s1, s2, _, hi, hs, _⟩ := run_at h
  cases hs with
  | serveReturn h0 _ _ =>
    have := hi.served
    rw [h0] at this
    simp [isServeReturn] at this

/-! ### a shutdown signal -/

/-- Anything but SIGHUP means terminate. -/
theorem terminal_iff_not_sighup (s : Sig) : isTerminal s = true ↔ s ≠ .hup := by
  cases s <;> simp [isTerminal]

/-- What `t.t.set(sig)` records is that rule applied to the first signal delivered (the one the
    signal task took from `sigC`), and from then on the terminator never changes. -/
theorem set_records_terminal {n : Nat} {pre post : List Event} {st : State}
    (h : run? (init n) (pre ++ .setTerm :: post) = some st) :
    ∃ s, firstSignal pre = some s ∧ st.term = some (decide (s ≠ .hup)) := by
  obtain ⟨s1, s2, _, hi, hs, _⟩ := run_at h
  cases hs with
  | setTerm hg _ =>
    have hsig := (hi.sig.got hg).1
    obtain ⟨s, h1, h2⟩ := (inv_of_run h).term (by simp)
    rw [firstSignal_append hsig] at h1
    cases h1
    exact ⟨_, hsig, h2⟩

/-- `t.cancel()` is preceded by `t.t.set(sig)` (the order is the source's, via `Gen.Server`). -/
theorem set_before_cancel {n : Nat} {pre post : List Event} {st : State}
    (h : run? (init n) (pre ++ .cancel :: post) = some st) : Event.setTerm ∈ pre := by
  obtain ⟨s1, s2, _, hi, hs, _⟩ := run_at h
  cases hs with
  | cancel hg hd _ => exact (hi.sig.got hg).2.1 (hd setFirst_true)

/-- Whether the signal means terminate or reload is recorded before any task observes the
    cancellation it causes: if task `k` sees its context cancelled and no task has failed before
    (so the cancellation is the signal task's), then `cancel()` happened before, `set` happened
    before that, the signal was delivered before that, and the value `b` the task reads from
    `terminate()` is `isTerminal` of that signal. -/
theorem term_before_cancel {n : Nat} {pre post : List Event} {k : Nat} {b : Bool} {st : State}
    (h : run? (init n) (pre ++ .observeCancel k b :: post) = some st)
    (hnf : ∀ j, Event.fail j ∉ pre) :
    ∃ s p1 p2, pre = p1 ++ .cancel :: p2 ∧ Event.setTerm ∈ p1 ∧ firstSignal p1 = some s ∧
      b = isTerminal s := by
  obtain ⟨s1, s2, h1, hi, hs, _⟩ := run_at h
  cases hs with
  | observeCancel _ _ hc hb =>
    have hcancel : Event.cancel ∈ pre := (hi.ctx.mp hc).resolve_left fun ⟨j, hj⟩ => hnf j hj
    obtain ⟨p1, p2, rfl⟩ := List.append_of_mem hcancel
    obtain ⟨s0, s0', _, hi0, hs0, _⟩ := run_at h1
    cases hs0 with
    | cancel hg hd _ =>
      obtain ⟨hsig, hset, _⟩ := hi0.sig.got hg
      have hmem := hset (hd setFirst_true)
      obtain ⟨s', h1, h2⟩ := hi.term (List.mem_append_left _ hmem)
      rw [firstSignal_append hsig] at h1
      cases h1
      exact ⟨_, p1, p2, rfl, hmem, hsig, by simp [hb, State.terminate, h2]⟩

/-- If every task keeps the Task contract (none fails, none returns an error after having been
    cancelled), `Serve` can only return nil, and only after a signal was delivered and the signal
    task cancelled the tasks. -/
theorem signal_success {n : Nat} {pre post : List Event} {e : Option Nat} {st : State}
    (h : run? (init n) (pre ++ .serveReturn e :: post) = some st)
    (hnf : ∀ k, Event.fail k ∉ pre) (hne : ∀ k, Event.ret k true ∉ pre) :
    e = none ∧ Event.cancel ∈ pre ∧ ∃ s, Event.signal s ∈ pre := by
  have he : e = none := by
    rw [first_error_returned h]; exact firstErrOf_eq_none.mpr ⟨hnf, hne⟩
  obtain ⟨s1, s2, h1, hi, hs, _⟩ := run_at h
  cases hs with
  | serveReturn _ _ hsig =>
    have hcancel : Event.cancel ∈ pre :=
      (hi.ctx.mp (hi.sig.returned hsig)).resolve_left fun ⟨j, hj⟩ => hnf j hj
    refine ⟨he, hcancel, ?_⟩
    obtain ⟨p1, p2, rfl⟩ := List.append_of_mem hcancel
    obtain ⟨s0, s0', _, hi0, hs0, _⟩ := run_at h1
    cases hs0 with
    | cancel hg _ _ => exact ⟨_, List.mem_append_left _ (firstSignal_mem (hi0.sig.got hg).1)⟩

/-! ### readiness -/

/-- READY is announced only after every one of the `n` tasks has reported ready. -/
theorem ready_after_all {n : Nat} {pre post : List Event} {st : State}
    (h : run? (init n) (pre ++ .announceReady :: post) = some st) :
    ∀ k, k < n → Event.ready k ∈ pre := by
  obtain ⟨s1, s2, _, hi, hs, _⟩ := run_at h
  intro k hk
  cases hs with
  | announceReady _ hall =>
    obtain ⟨t, ht, hr⟩ := Model.all_getElem? hall (k := k) (by rw [hi.len]; exact hk)
    exact (hi.tasks k t ht).1 hr

/-! ### the oracle the check evaluates, and the acceptance test of observed traces -/

/-- Every trace of the transition system satisfies the safety part of the oracle
    (`Spec.C20.safe`: the clauses for `serveReturn`, `observeCancel`, `announceReady` at every
    position). -/
theorem lts_safe {n : Nat} {tr : List Event} {st : State} (h : run? (init n) tr = some st) :
    safe n tr = true := by
  rw [safe, allPrefix_iff]
  intro pre e post heq
  subst heq
  simp only [List.nil_append]
  cases e <;> try rfl
  case serveReturn e =>
    simp only [clause, Bool.and_eq_true, List.all_eq_true, List.mem_range, beq_iff_eq]
    exact ⟨fun k hk => (return_after_all h k hk).any, first_error_returned h⟩
  case observeCancel k b =>
    simp only [clause, Bool.or_eq_true]
    by_cases hf : ∃ j, Event.fail j ∈ pre
    · obtain ⟨j, hj⟩ := hf
      exact .inl (List.any_eq_true.mpr ⟨_, hj, rfl⟩)
    · obtain ⟨s, p1, p2, rfl, _, hsig, hb⟩ :=
        term_before_cancel h (fun j hj => hf ⟨j, hj⟩)
      exact .inr (by simp [firstSignal_append hsig, hb, terminal, isTerminal])
  case announceReady =>
    simp only [clause, List.all_eq_true, List.mem_range, List.contains_iff_mem]
    exact fun k hk => ready_after_all h k hk

/-- …and so does what the harness can see of it: the oracle does not look at the signal task's
    internal steps. -/
theorem observed_safe {n : Nat} {tr : List Event} {st : State} (h : run? (init n) tr = some st) :
    safe n (tr.filter Event.observable) = true := by
  have hs := lts_safe h
  rw [safe, allPrefix_iff] at hs ⊢
  intro pre e post heq
  simp only [List.nil_append] at hs ⊢
  obtain ⟨l1, l2, rfl, h1, h2⟩ := List.filter_eq_append_iff.mp heq
  obtain ⟨m1, m2, rfl, hm, _, _⟩ := List.filter_eq_cons_iff.mp h2
  have hpre : (l1 ++ m1).filter Event.observable = pre := by
    rw [List.filter_append, h1]
    have : m1.filter Event.observable = [] := by
      simp only [List.filter_eq_nil_iff]; exact hm
    simp [this]
  have := hs (l1 ++ m1) e m2 (by simp)
  rw [← hpre, clause_filter]; exact this

/-- The acceptance test of the driver is sound: an observed trace it accepts is the projection
    (internal steps of the signal task removed) of a trace of the transition system — so every
    theorem above applies to what was observed. -/
theorem acceptsObs_sound {n : Nat} {obs : List Event} (h : acceptsObs n obs = true) :
    ∃ tr st, run? (init n) tr = some st ∧ tr.filter Event.observable = obs := by
  simp only [acceptsObs, Bool.and_eq_true, List.all_eq_true, Option.isNone_iff_eq_none] at h
  obtain ⟨s, hs, tr, st, hr, hf⟩ := rejectedAt_sound obs h.1 [init n] 0 (by simp) h.2
  simp at hs; subst hs
  exact ⟨tr, st, hr, hf⟩

/-- …in particular an accepted observation satisfies the safety part of the oracle. -/
theorem accepted_safe {n : Nat} {obs : List Event} (h : acceptsObs n obs = true) :
    safe n obs = true := by
  obtain ⟨tr, st, hr, rfl⟩ := acceptsObs_sound h
  exact observed_safe hr

/-! ### non-vacuity: the hypotheses are met by concrete runs -/

/-- SIGTERM while two tasks run: set, notify, cancel, both tasks see `terminate() = true`,
    return nil, `Serve` returns nil — a trace of the system. -/
example : accepts 2
    [.start 0, .start 1, .ready 0, .ready 1, .announceReady, .signal .term, .recvSig, .setTerm,
     .notifyStopping, .cancel, .observeCancel 1 true, .observeCancel 0 true, .ret 0 false,
     .sigReturn, .ret 1 false, .serveReturn none] = true := by decide

/-- SIGHUP: the tasks read `terminate() = false`; reading `true` is not a trace. -/
example : accepts 1
    [.start 0, .signal .hup, .recvSig, .setTerm, .notifyStopping, .cancel, .observeCancel 0 false,
     .ret 0 false, .sigReturn, .serveReturn none] = true ∧
    accepts 1
    [.start 0, .signal .hup, .recvSig, .setTerm, .notifyStopping, .cancel, .observeCancel 0 true] = false := by
  decide

/-- Task 1 fails; task 0 is cancelled, returns an error too, later; the signal that follows is
    never taken; `Serve` returns task 1's error — and not before task 0 has returned. -/
example : accepts 2
    [.start 0, .start 1, .fail 1, .observeCancel 0 false, .sigReturn, .signal .int, .ret 0 true,
     .serveReturn (some 1)] = true ∧
    accepts 2
    [.start 0, .start 1, .fail 1, .observeCancel 0 false, .sigReturn, .serveReturn (some 1)] = false ∧
    accepts 2
    [.start 0, .start 1, .fail 1, .observeCancel 0 false, .sigReturn, .ret 0 true,
     .serveReturn (some 0)] = false := by
  decide

/-- A task returns an error after the signal cancelled it: `Serve` returns that error, not nil. -/
example : accepts 1
    [.start 0, .signal .term, .recvSig, .setTerm, .notifyStopping, .cancel, .observeCancel 0 true,
     .ret 0 true, .sigReturn, .serveReturn (some 0)] = true ∧
    accepts 1
    [.start 0, .signal .term, .recvSig, .setTerm, .notifyStopping, .cancel, .observeCancel 0 true,
     .ret 0 true, .sigReturn, .serveReturn none] = false := by
  decide

/-- `cancel()` before `set`, and READY before every task is ready, are not traces. -/
example : accepts 1 [.start 0, .signal .term, .recvSig, .cancel] = false ∧
    accepts 2 [.start 0, .start 1, .ready 0, .announceReady] = false := by
  decide

/-- the same SIGTERM run as the harness sees it is accepted through the τ-closure, and satisfies
    the whole oracle -/
example : acceptsObs 2
    [.start 0, .start 1, .ready 0, .ready 1, .announceReady, .signal .term, .notifyStopping,
     .observeCancel 1 true, .observeCancel 0 true, .ret 0 false, .ret 1 false, .serveReturn none] = true ∧
    holds 2
    [.start 0, .start 1, .ready 0, .ready 1, .announceReady, .signal .term, .notifyStopping,
     .observeCancel 1 true, .observeCancel 0 true, .ret 0 false, .ret 1 false, .serveReturn none] = true := by
  decide

/-- BuildTasks on the configuration of the repository's own "full" test -/
example : buildTasks [.mon, .adv, .neither] true true = [.monitor 0, .advertiser 1, .http, .watcher] := by
  decide

end Corerad.Props.C20
