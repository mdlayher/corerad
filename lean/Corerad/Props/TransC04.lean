/-
  TransC04 — `config.Interface.RouterAdvertisement` (internal/config/config.go) tied to
  `Model.routerAdvertisement` by REGENERATION (tools/extract/translate_ra.go).

  Every RA-generating path of the daemon — initial, periodic, solicited, final, consistency check,
  metrics scrape, debug API — ends in this one function (Gen/Advertise, Gen/Metrics pin the call
  sites and where their `forwarding` argument comes from).  It is re-translated from its current
  source text on every run: the header literal, the fold of the plugins' `Apply` over the RA under
  construction (the pointer threaded as a value, `Apply` an uninterpreted parameter), the
  RFC 4861 §6.2.5 rule.  `Interface_RouterAdvertisement_equiv` instantiates `Apply` with the model's
  plugins ("append the options `Plugin.apply` yields, or fail") and states equality with
  `Model.routerAdvertisement` — the function the C01 and C04 theorems are about — for EVERY
  interface, system state and forwarding value.  A swapped header field, `>=` for `>`, a dropped
  negation, the rule placed before the plugins, a second misconfiguration value, a plugin error that
  is swallowed: each changes the translated definition and the proof stops checking.
-/
import Corerad.Gen.Trans
import Corerad.Lemmas.RA

namespace Corerad.Props.TransC04

open Corerad Corerad.Model

/-- what a model plugin does to the RA it is handed -/
def applyTo (sys : SysState) (p : Plugin) (ra : RA) : Option RA :=
  (p.apply sys).map fun os => { ra with options := ra.options ++ os }

/-- the fold of `Apply` over the RA under construction appends `applyAll`'s options, and fails
    exactly when `applyAll` does -/
theorem foldlM_applyTo (sys : SysState) (ps : List Plugin) (ra : RA) :
    List.foldlM (fun ra p => applyTo sys p ra) ra ps
      = (applyAll sys ps).map fun os => { ra with options := ra.options ++ os } := by
  induction ps generalizing ra with
  | nil => simp [applyAll]
  | cons p ps ih =>
    rw [List.foldlM_cons, applyAll_cons, applyTo]
    cases p.apply sys with
    | none => rfl
    | some os =>
      rw [Option.map_some, Option.bind_eq_bind, Option.bind_some, ih, optAppend_some_left, Option.map_map]
      simp only [Function.comp_def, List.append_assoc]

/-- **`Interface.RouterAdvertisement(forwarding)` as translated from the source is
    `Model.routerAdvertisement`**: same RA, and the misconfiguration list is
    `[InterfaceNotForwarding]` exactly when the model flags the interface as not forwarding. -/
theorem Interface_RouterAdvertisement_equiv (ifi : Interface) (sys : SysState) (fw : Bool) :
    Gen.Trans.Interface_RouterAdvertisement ifi fw (applyTo sys)
      = (routerAdvertisement ifi sys fw).map fun r => (r.1, if r.2 then [1] else []) := by
  unfold Gen.Trans.Interface_RouterAdvertisement routerAdvertisement
  simp only [foldlM_applyTo]
  cases applyAll sys ifi.plugins with
  | none => simp
  | some os =>
    simp only [Option.map_some, List.nil_append]
    by_cases h : ifi.defaultLifetime > 0 <;> cases fw <;> simp [h]

/-- C04 in one line, read off the translated function: with forwarding off and a positive
    configured lifetime the RA built has router lifetime 0 and reports the misconfiguration;
    otherwise the configured lifetime is sent and nothing is reported. -/
theorem translated_lifetime_rule (ifi : Interface) (sys : SysState) (fw : Bool) (ra : RA) (ms : List Nat)
    (h : Gen.Trans.Interface_RouterAdvertisement ifi fw (applyTo sys) = some (ra, ms)) :
    (fw = false ∧ ifi.defaultLifetime > 0 → ra.routerLifetime = 0 ∧ ms = [1]) ∧
    (¬ (fw = false ∧ ifi.defaultLifetime > 0) → ra.routerLifetime = ifi.defaultLifetime ∧ ms = []) := by
  rw [Interface_RouterAdvertisement_equiv] at h
  obtain ⟨r, hr, h⟩ := Option.map_eq_some_iff.mp h
  obtain ⟨os, -, rfl⟩ := routerAdvertisement_eq_some.mp hr
  rw [finishRA_eq] at h
  cases h
  by_cases hz : fw = false ∧ 0 < ifi.defaultLifetime <;> simp [hz]

/-- non-vacuity: a static prefix and an MTU option, forwarding off -/
example :
    Gen.Trans.Interface_RouterAdvertisement
      { hopLimit := 64, defaultLifetime := 1800 * second,
        plugins := [.pfx false ⟨{ val := 0x20010db8000000010000000000000000 }, 64⟩ true true (2 * hour) hour false, .mtu 1500] }
      false (applyTo {})
    = some ({ hopLimit := 64, routerLifetime := 0,
              options := [.pi { val := 0x20010db8000000010000000000000000 } 64 true true (2 * hour) hour, .mtu 1500] }, [1]) := by
  decide +kernel

end Corerad.Props.TransC04
