/-
  C18 — monitor metrics describe every received message exactly.

  Everything is stated for every message, sender and receipt time, and for message sequences
  of any length (induction over the sequence).  `Model.monitorHandle` is the transcription of
  `(*Monitor).handle`; `Spec.C18` is the declarative reading of the property.

  Prefix lengths.  The model labels a Prefix Information option with `PI.label` = what `cidrStr`
  renders: `addr/len` for `len ≤ 128`, the one literal `invalid Prefix` for the length bytes
  129..255 that `ndp` decodes without complaint.  The theorems are stated for *every* length, in
  terms of `PI.label`, so they also say what happens to a malformed option; where the property
  speaks of "the prefix in CIDR form" the hypothesis `len ≤ 128` is explicit (`…_cidr`,
  `…_wellFormed`; for whole sequences the decidable `Spec.C18.wellFormedLens`).
-/
import Corerad.Spec.C18
import Corerad.Lemmas.ListUtil

namespace Corerad.Props.C18

open Corerad.Model.Monitor Corerad.Spec.C18

def isCounter : Series → Bool
  | .received _ _ => true
  | _ => false

/-- What `metricslite` accepts without panicking: counters only grow (`Counter` panics on a
    negative value) and every call goes to a series of its own kind. -/
def accepted : MetricOp → Prop
  | .inc s v => isCounter s = true ∧ 0 ≤ v
  | .set s _ => isCounter s = false

def isInc : MetricOp → Bool
  | .inc _ _ => true
  | .set _ _ => false

/-- counter after `n` bumps by one -/
def bump (o : Option Int) (n : Nat) : Option Int :=
  if n = 0 then o else some (o.getD 0 + n)

/-- the four gauges a Prefix Information option writes -/
inductive PGauge where
  | autonomous | onLink | preferred | valid

def PGauge.series : PGauge → PLabel → Nat → Series
  | .autonomous => .prefixAutonomous
  | .onLink => .prefixOnLink
  | .preferred => .prefixPreferred
  | .valid => .prefixValid

/-- the sample an option received at `t` gives the gauge -/
def PGauge.value (t : Time) (p : PI) : PGauge → Int
  | .autonomous => b2i p.autonomous
  | .onLink => b2i p.onLink
  | .preferred => unixSec (t + p.preferred)
  | .valid => unixSec (t + p.valid)

theorem PGauge.series_inj {k k' : PGauge} {a b : PLabel} {r r' : Nat}
    (e : k.series a r = k'.series b r') : k = k' ∧ a = b ∧ r = r' := by
  cases k <;> cases k' <;> cases e <;> exact ⟨rfl, rfl, rfl⟩

@[simp]
theorem PGauge.seriesHost_series (k : PGauge) (pl : PLabel) (r : Nat) :
    seriesHost (k.series pl r) = r := by
  cases k <;> rfl

@[simp]
theorem PGauge.isCounter_series (k : PGauge) (pl : PLabel) (r : Nat) :
    isCounter (k.series pl r) = false := by
  cases k <;> rfl

theorem outOfScope_invalid {s : Series} (h : outOfScope s = true) : ∃ k r, s = PGauge.series k .invalid r := by
  unfold outOfScope at h
  split at h
  · exact ⟨.autonomous, _, rfl⟩
  · exact ⟨.onLink, _, rfl⟩
  · exact ⟨.preferred, _, rfl⟩
  · exact ⟨.valid, _, rfl⟩
  · cases h

theorem raGauge_series (ra : RA) (t : Time) (k : PGauge) (pl : PLabel) (r : Nat) :
    raGauge ra t (k.series pl r) = (lastPI? pl (prefixesOf ra)).map (k.value t) := by
  cases k <;> rfl

theorem prefixOps_eq (h : Nat) (t : Time) (p : PI) :
    prefixOps h t p =
      [.autonomous, .onLink, .preferred, .valid].map fun k : PGauge => .set (k.series p.label h) (k.value t p) :=
  rfl

/-! ### The spec's "last one that says anything" -/

theorem lastPI?_eq (pl : PLabel) (ps : List PI) :
    lastPI? pl ps = ps.reverse.findSome? fun p => if p.label = pl then some p else none := by
  induction ps with
  | nil => rfl
  | cons p ps ih =>
    rw [lastPI?, ih, List.reverse_cons, List.findSome?_append, List.findSome?_singleton]
    cases List.findSome? _ ps.reverse <;> rfl

theorem lastWrite?_eq (s : Series) (evs : List Event) :
    lastWrite? s evs = evs.reverse.findSome? fun e => eventGauge e s := by
  induction evs with
  | nil => rfl
  | cons e evs ih =>
    rw [lastWrite?, ih, List.reverse_cons, List.findSome?_append, List.findSome?_singleton]
    cases List.findSome? _ evs.reverse <;> rfl

/-! ### The store -/

private theorem run_append (st : Store) (a b : List MetricOp) : run st (a ++ b) = run (run st a) b :=
  List.foldl_append ..

theorem run_flatMap_gauge {α : Type} (s : Series) (f : α → List MetricOp) (g : α → Option Int)
    (h : ∀ a st, run st (f a) s = (g a).or (st s)) :
    ∀ (l : List α) (st : Store), run st (l.flatMap f) s = (l.reverse.findSome? g).or (st s)
  | [], st => rfl
  | a :: l, st => by
    rw [List.flatMap_cons, run_append, run_flatMap_gauge s f g h l, h, List.reverse_cons, List.findSome?_append,
      List.findSome?_singleton, Option.or_assoc]

theorem bump_succ (o : Option Int) (n : Nat) : bump (some (o.getD 0 + 1)) n = bump o (n + 1) := by
  simp only [bump, Nat.add_eq_zero_iff, Nat.succ_ne_self, and_false, if_false, Option.getD_some]
  split
  · simp [*]
  · simp only [Option.some.injEq]; omega

private theorem run_untouched (s : Series) :
    ∀ (ops : List MetricOp) (st : Store), (∀ op ∈ ops, op.key ≠ s) → run st ops s = st s
  | [], _, _ => rfl
  | op :: ops, st, h => by
    have h0 : s ≠ op.key := fun e => h op List.mem_cons_self e.symm
    rw [run, List.foldl_cons, ← run, run_untouched s ops _ fun o ho => h o (List.mem_cons_of_mem _ ho)]
    cases op <;> exact if_neg h0

theorem run_isSome (s : Series) :
    ∀ (ops : List MetricOp) (st : Store),
      (run st ops s).isSome ↔ (st s).isSome ∨ ∃ op ∈ ops, op.key = s
  | [], st => by simp [run]
  | op :: ops, st => by
    have : (st.apply op s).isSome ↔ (st s).isSome ∨ op.key = s := by
      cases op with
      | inc k v | set k v =>
        simp only [Store.apply, MetricOp.key]
        by_cases e : s = k
        · simp [e]
        · simp [e, Ne.symm e]
    rw [run, List.foldl_cons, ← run, run_isSome s ops, this]
    simp [or_assoc]

/-! ### What one message writes -/

/-- `pick[*ndp.PrefixInformation]` is the declarative "Prefix Information options, in order". -/
theorem pick_eq_prefixesOf (ra : RA) : pickPI ra.options = prefixesOf ra := by
  unfold prefixesOf
  induction ra.options with
  | nil => rfl
  | cons o r ih => cases o <;> simp [pickPI, ih]

theorem run_prefixOps (h : Nat) (t : Time) (k : PGauge) (pl : PLabel) (ps : List PI) (st : Store) :
    run st (ps.flatMap (prefixOps h t)) (k.series pl h) =
      ((lastPI? pl ps).map (k.value t)).or (st (k.series pl h)) := by
  rw [lastPI?_eq, List.map_findSome?]
  refine run_flatMap_gauge _ _ _ (fun p st => ?_) ps st
  -- the four writes of `prefixOps`, run on `st` and read at the series: four nested tests of the key
  show (if _ then _ else if _ then _ else if _ then _ else if _ then _ else _) = _
  cases k <;>
    simp only [PGauge.series, PGauge.value, reduceCtorEq, if_false, Series.prefixAutonomous.injEq,
      Series.prefixOnLink.injEq, Series.prefixPreferred.injEq, Series.prefixValid.injEq, and_true,
      eq_comm (a := pl), Function.comp_apply] <;>
    split <;> rfl

theorem mem_prefixOps (h : Nat) (t : Time) (p : PI) (op : MetricOp) :
    op ∈ prefixOps h t p ↔ ∃ k : PGauge, op = .set (k.series p.label h) (k.value t p) := by
  rw [prefixOps_eq, List.mem_map]
  exact ⟨fun ⟨k, _, e⟩ => ⟨k, e.symm⟩, fun ⟨k, e⟩ => ⟨k, by cases k <;> simp, e.symm⟩⟩

private theorem mem_raOps (ra : RA) (h : Nat) (t : Time) (op : MetricOp) :
    op ∈ raOps ra h t ↔
      op = .set (.flagManaged h) (b2i ra.managed) ∨ op = .set (.flagOther h) (b2i ra.other) ∨
      (ra.routerLifetime ≠ 0 ∧ op = .set (.defaultRoute h) (unixSec (t + ra.routerLifetime))) ∨
      ∃ p ∈ prefixesOf ra, ∃ k : PGauge, op = .set (k.series p.label h) (k.value t p) := by
  simp only [raOps, List.mem_append, List.mem_cons, List.not_mem_nil, or_false, List.mem_ite_nil_right,
    List.mem_flatMap, mem_prefixOps, pick_eq_prefixesOf, or_assoc]

theorem raOps_set (ra : RA) (h : Nat) (t : Time) (op : MetricOp) (hop : op ∈ raOps ra h t) :
    ∃ s v, op = .set s v ∧ isCounter s = false ∧ seriesHost s = h := by
  rcases (mem_raOps ra h t op).mp hop with rfl | rfl | ⟨_, rfl⟩ | ⟨p, _, k, rfl⟩
  · exact ⟨_, _, rfl, rfl, rfl⟩
  · exact ⟨_, _, rfl, rfl, rfl⟩
  · exact ⟨_, _, rfl, rfl, rfl⟩
  · exact ⟨_, _, rfl, k.isCounter_series .., k.seriesHost_series ..⟩

private theorem expiry_eq (t : Time) (lt : Dur) : expiry t lt = unixSec (t + lt) := rfl

/-- What an RA does to the sample of any series: last write wins inside the RA too. -/
theorem run_raOps (ra : RA) (h : Nat) (t : Time) (st : Store) (s : Series) :
    run st (raOps ra h t) s = (if seriesHost s = h then raGauge ra t s else none).or (st s) := by
  by_cases hs : seriesHost s = h
  case neg =>
    refine (run_untouched s _ _ fun op hop e => hs ?_).trans (if_neg hs ▸ rfl)
    obtain ⟨_, _, rfl, -, hh⟩ := raOps_set ra h t op hop
    exact e ▸ hh
  subst hs
  rw [if_pos rfl, raOps, run_append]
  -- the header writes (flags, default route) and the option writes address disjoint series: a prefix gauge
  -- is read past the header (`prefixGauge`), any other series past the options (`other`)
  have prefixGauge (k : PGauge) (pl : PLabel) (r : Nat) (st' : Store)
      (hst : st' (k.series pl r) = st (k.series pl r)) :
      run st' ((pickPI ra.options).flatMap (prefixOps r t)) (k.series pl r) =
        (raGauge ra t (k.series pl r)).or (st (k.series pl r)) := by
    rw [run_prefixOps, raGauge_series, pick_eq_prefixesOf, hst]
  have other (hk : ∀ k pl r, s ≠ PGauge.series k pl r) (st' : Store) :
      run st' ((pickPI ra.options).flatMap (prefixOps (seriesHost s) t)) s = st' s := by
    refine run_untouched s _ _ fun op hop e => ?_
    obtain ⟨p, _, hp⟩ := List.mem_flatMap.mp hop
    obtain ⟨k, rfl⟩ := (mem_prefixOps _ _ _ _).mp hp
    exact hk _ _ _ e.symm
  cases s with
  | prefixAutonomous pl r => exact prefixGauge .autonomous pl r _ (by split <;> rfl)
  | prefixOnLink pl r => exact prefixGauge .onLink pl r _ (by split <;> rfl)
  | prefixPreferred pl r => exact prefixGauge .preferred pl r _ (by split <;> rfl)
  | prefixValid pl r => exact prefixGauge .valid pl r _ (by split <;> rfl)
  | received | flagManaged | flagOther | defaultRoute =>
    rw [other fun k _ _ e => by cases k <;> cases e]
    split <;> simp [run, Store.apply, raGauge, seriesHost, expiry_eq, *]

theorem eventGauge_received (e : Event) (h ty : Nat) : eventGauge e (.received h ty) = none := by
  unfold eventGauge; cases e.msg <;> simp [raGauge]

/-- What one message does to the sample of any series: its own counter goes up by one; a gauge it
    says something about is overwritten; everything else stays. -/
theorem run_handle (m : Msg) (h : Nat) (t : Time) (st : Store) (s : Series) :
    run st (monitorHandle m h t) s =
      if s = .received h m.typ then some ((st s).getD 0 + 1) else (eventGauge ⟨m, h, t⟩ s).or (st s) := by
  have tail (st' : Store) :
      run st' (match m with | .ra ra => raOps ra h t | .other _ => []) s =
        (eventGauge ⟨m, h, t⟩ s).or (st' s) := by
    cases m with
    | other ty => rfl
    | ra ra => exact run_raOps ra h t st' s
  refine (tail (st.apply (.inc (.received h m.typ) 1))).trans ?_
  by_cases hs : s = .received h m.typ
  · subst hs
    simp [eventGauge_received, Store.apply]
  · simp [Store.apply, hs]

theorem run_opsOf_gauge (evs : List Event) (st : Store) (s : Series) (hs : isCounter s = false) :
    run st (opsOf evs) s = (lastWrite? s evs).or (st s) := by
  rw [lastWrite?_eq]
  refine run_flatMap_gauge s _ _ (fun e st => ?_) evs st
  rw [run_handle, if_neg (by rintro rfl; cases hs)]

theorem run_opsOf_counter (h ty : Nat) : ∀ (evs : List Event) (st : Store),
    run st (opsOf evs) (.received h ty) = bump (st (.received h ty)) (countOf evs h ty)
  | [], _ => rfl
  | e :: evs, st => by
    rw [countOf, List.countP_cons, ← countOf, opsOf, List.flatMap_cons, run_append, ← opsOf,
      run_opsOf_counter h ty evs, run_handle, eventGauge_received]
    by_cases he : e.host = h ∧ e.msg.typ = ty
    · obtain ⟨rfl, rfl⟩ := he; simp [bump_succ]
    · have hne : Series.received h ty ≠ .received e.host e.msg.typ := fun x => by
        injection x with a b; exact he ⟨a.symm, b.symm⟩
      rw [if_neg hne]; simp [he]

/-- The store reached by the transcription of `handle` over any message sequence is, series by
    series, the declaratively expected one. -/
theorem final_store_eq_expected (evs : List Event) (s : Series) :
    finalStore evs s = expected evs s := by
  cases s with
  | received h ty => exact (run_opsOf_counter h ty evs _).trans (by simp [bump, expected, Store.empty])
  | _ => exact (run_opsOf_gauge evs _ _ rfl).trans (Option.or_none ..)

/-- The timestamps are floors: `unixSec t` is the unique whole number of seconds `v` with
    `v s ≤ t < (v + 1) s` (also for instants before 1970). -/
theorem unixSec_floor (t : Time) (v : Int) :
    v = unixSec t ↔ v * 1000000000 ≤ t ∧ t < (v + 1) * 1000000000 := by
  rw [eq_comm, unixSec, Int.ediv_eq_iff_of_pos (by decide), Int.add_mul, Int.one_mul]

theorem mem_prefixesOf (p : PI) (ra : RA) : p ∈ prefixesOf ra ↔ Opt.pi p ∈ ra.options := by
  unfold prefixesOf
  induction ra.options with
  | nil => simp
  | cons o r ih => cases o <;> simp [ih]

/-- `handle` is a total function without an error path, and no operation it performs is one
    that the metrics registry rejects (a counter is only ever increased, every call addresses a
    series of its own kind with the right label arity — the latter by typing of `Series`). -/
theorem never_fails (m : Msg) (h : Nat) (t : Time) :
    (∃ ops, monitorHandle m h t = ops) ∧ ∀ op ∈ monitorHandle m h t, accepted op := by
  refine ⟨⟨_, rfl⟩, fun op hop => ?_⟩
  rcases List.mem_cons.mp hop with rfl | hop
  · exact ⟨rfl, by decide⟩
  · cases m with
    | other ty => cases hop
    | ra ra => obtain ⟨s, v, rfl, hs, -⟩ := raOps_set ra h t op hop; exact hs

theorem never_fails_sequence (evs : List Event) : ∀ op ∈ opsOf evs, accepted op := by
  intro op hop
  obtain ⟨e, _, he⟩ := List.mem_flatMap.mp hop
  exact (never_fails _ _ _).2 op he

/-- Every message, of whatever kind, is counted exactly once, under (sender, message type):
    the only counter operation is one increment by 1; in terms of the store, that sample goes up
    by one and every other counter sample is left alone. -/
theorem counts_once (m : Msg) (h : Nat) (t : Time) (st : Store) :
    (monitorHandle m h t).filter isInc = [.inc (.received h m.typ) 1] ∧
    run st (monitorHandle m h t) (.received h m.typ) = some ((st (.received h m.typ)).getD 0 + 1) ∧
    ∀ h' ty, ¬ (h' = h ∧ ty = m.typ) →
      run st (monitorHandle m h t) (.received h' ty) = st (.received h' ty) := by
  refine ⟨?_, by rw [run_handle, if_pos rfl], fun h' ty hne => ?_⟩
  · cases m with
    | other ty => rfl
    | ra ra =>
      refine congrArg (_ :: ·) (List.filter_eq_nil_iff.mpr fun op hop => ?_)
      obtain ⟨s, v, rfl, _⟩ := raOps_set ra h t op hop
      exact Bool.false_ne_true
  · rw [run_handle, if_neg (by simpa using hne), eventGauge_received]; rfl

/-- Over a sequence the counter of (sender, type) is the number of such messages; the series
    does not exist when there were none. -/
theorem counts_sequence (evs : List Event) (h ty : Nat) :
    finalStore evs (.received h ty) =
      if countOf evs h ty = 0 then none else some (countOf evs h ty : Int) := by
  rw [final_store_eq_expected]; rfl

/-- An RA sets the managed and other flag gauges of its sender to the header bits (whatever
    was there before). -/
theorem flags_set (ra : RA) (h : Nat) (t : Time) (st : Store) :
    run st (monitorHandle (.ra ra) h t) (.flagManaged h) = some (b2i ra.managed) ∧
    run st (monitorHandle (.ra ra) h t) (.flagOther h) = some (b2i ra.other) := by
  constructor <;>
  · rw [run_handle, if_neg (by simp)]
    simp [eventGauge, seriesHost, raGauge]

/-- The default-route gauge is written iff the router lifetime is non-zero; it is written for
    the sender only, with `⌊(receipt + lifetime) / 1 s⌋`; an RA with lifetime 0 leaves the gauge
    as it was. -/
theorem default_route_iff (ra : RA) (h : Nat) (t : Time) (st : Store) :
    ((∃ v, MetricOp.set (.defaultRoute h) v ∈ monitorHandle (.ra ra) h t) ↔ ra.routerLifetime ≠ 0) ∧
    (∀ r v, MetricOp.set (.defaultRoute r) v ∈ monitorHandle (.ra ra) h t →
      r = h ∧ v * 1000000000 ≤ t + ra.routerLifetime ∧ t + ra.routerLifetime < (v + 1) * 1000000000) ∧
    run st (monitorHandle (.ra ra) h t) (.defaultRoute h) =
      if ra.routerLifetime ≠ 0 then some ((t + ra.routerLifetime) / 1000000000)
      else st (.defaultRoute h) := by
  have mem : ∀ r v, MetricOp.set (.defaultRoute r) v ∈ monitorHandle (.ra ra) h t ↔
      ra.routerLifetime ≠ 0 ∧ r = h ∧ v = unixSec (t + ra.routerLifetime) := by
    intro r v
    simp only [monitorHandle, List.mem_cons, mem_raOps]
    constructor
    · rintro (h0 | h0 | h0 | ⟨hl, h0⟩ | ⟨p, _, k, h0⟩)
      · cases h0
      · cases h0
      · cases h0
      · cases h0; exact ⟨hl, rfl, rfl⟩
      · cases k <;> cases h0
    · rintro ⟨hl, rfl, rfl⟩
      exact Or.inr (Or.inr (Or.inr (Or.inl ⟨hl, rfl⟩)))
  refine ⟨⟨fun ⟨v, hv⟩ => ((mem h v).mp hv).1, fun hl => ⟨_, (mem h _).mpr ⟨hl, rfl, rfl⟩⟩⟩, ?_, ?_⟩
  · intro r v hv
    obtain ⟨_, rfl, rfl⟩ := (mem r v).mp hv
    exact ⟨rfl, (unixSec_floor _ _).mp rfl⟩
  · rw [run_handle, if_neg (by simp)]
    simp only [eventGauge, seriesHost, raGauge, if_true]
    split <;> rfl

theorem prefix_write (ra : RA) (h : Nat) (t : Time) (p : PI) (hp : Opt.pi p ∈ ra.options) (k : PGauge) :
    MetricOp.set (k.series p.label h) (k.value t p) ∈ monitorHandle (.ra ra) h t :=
  List.mem_cons_of_mem _ <| (mem_raOps ra h t _).mpr <|
    Or.inr (Or.inr (Or.inr ⟨p, (mem_prefixesOf p ra).mpr hp, k, rfl⟩))

/-- Each Prefix Information option of an RA — whatever its length byte — writes the four gauges
    labelled by its label (`PI.label`: `addr/len`, or `invalid Prefix` for a length above 128) and
    the sender: the two flags and the two expiry timestamps `⌊(receipt + lifetime) / 1 s⌋`. -/
theorem per_prefix_four (ra : RA) (h : Nat) (t : Time) (p : PI) (hp : Opt.pi p ∈ ra.options) :
    MetricOp.set (.prefixAutonomous p.label h) (b2i p.autonomous) ∈ monitorHandle (.ra ra) h t ∧
    MetricOp.set (.prefixOnLink p.label h) (b2i p.onLink) ∈ monitorHandle (.ra ra) h t ∧
    MetricOp.set (.prefixPreferred p.label h) ((t + p.preferred) / 1000000000) ∈ monitorHandle (.ra ra) h t ∧
    MetricOp.set (.prefixValid p.label h) ((t + p.valid) / 1000000000) ∈ monitorHandle (.ra ra) h t :=
  ⟨prefix_write ra h t p hp .autonomous, prefix_write ra h t p hp .onLink,
   prefix_write ra h t p hp .preferred, prefix_write ra h t p hp .valid⟩

/-- Nothing but a Prefix Information option of an RA addresses a prefix gauge: an operation on
    such a series is the write of an option with that label, under the sender, of exactly that
    option's value.  (Other messages, and other options — also Route Information for the same
    prefix — never do.) -/
theorem prefix_writes_only_from_pi {m : Msg} {h : Nat} {t : Time} {op : MetricOp} {k : PGauge} {pl : PLabel}
    {r : Nat} (hm : op ∈ monitorHandle m h t) (hk : op.key = k.series pl r) :
    ∃ ra, m = .ra ra ∧ r = h ∧
      ∃ p, Opt.pi p ∈ ra.options ∧ p.label = pl ∧ op = .set (k.series pl h) (k.value t p) := by
  rcases List.mem_cons.mp hm with rfl | hm
  · cases k <;> cases hk
  · cases m with
    | other ty => cases hm
    | ra ra =>
      rcases (mem_raOps ra h t op).mp hm with rfl | rfl | ⟨_, rfl⟩ | ⟨p, hp, k', rfl⟩
      · cases k <;> cases hk
      · cases k <;> cases hk
      · cases k <;> cases hk
      · obtain ⟨rfl, rfl, rfl⟩ := PGauge.series_inj hk
        exact ⟨ra, rfl, rfl, p, (mem_prefixesOf p ra).mp hp, rfl, rfl⟩

/-- In terms of the store: after an RA, each prefix gauge of the sender holds the value of the
    last option with that label in the RA (a prefix repeated in one RA: last one wins; for
    `pl = .invalid`: the last malformed option wins, whatever its address and length), and is
    untouched when the RA carries no option with that label. -/
theorem per_prefix_store (ra : RA) (h : Nat) (t : Time) (pl : PLabel) (st : Store) :
    run st (monitorHandle (.ra ra) h t) (.prefixAutonomous pl h) =
      (match lastPI? pl (prefixesOf ra) with
       | some p => some (b2i p.autonomous) | none => st (.prefixAutonomous pl h)) ∧
    run st (monitorHandle (.ra ra) h t) (.prefixOnLink pl h) =
      (match lastPI? pl (prefixesOf ra) with
       | some p => some (b2i p.onLink) | none => st (.prefixOnLink pl h)) ∧
    run st (monitorHandle (.ra ra) h t) (.prefixPreferred pl h) =
      (match lastPI? pl (prefixesOf ra) with
       | some p => some ((t + p.preferred) / 1000000000) | none => st (.prefixPreferred pl h)) ∧
    run st (monitorHandle (.ra ra) h t) (.prefixValid pl h) =
      (match lastPI? pl (prefixesOf ra) with
       | some p => some ((t + p.valid) / 1000000000) | none => st (.prefixValid pl h)) := by
  have key (k : PGauge) : run st (monitorHandle (.ra ra) h t) (k.series pl h) =
      match lastPI? pl (prefixesOf ra) with
      | some p => some (k.value t p) | none => st (k.series pl h) := by
    rw [run_handle, if_neg fun e => Bool.false_ne_true ((k.isCounter_series pl h).symm.trans (congrArg isCounter e))]
    have : eventGauge ⟨.ra ra, h, t⟩ (k.series pl h) = (lastPI? pl (prefixesOf ra)).map (k.value t) := by
      rw [← raGauge_series]; exact if_pos (k.seriesHost_series pl h)
    rw [this]
    cases lastPI? pl (prefixesOf ra) <;> rfl
  exact ⟨key .autonomous, key .onLink, key .preferred, key .valid⟩

/-- `lastPI?` is "the last option with this label", declaratively. -/
theorem lastPI_iff (pl : PLabel) (ps : List PI) (p : PI) :
    lastPI? pl ps = some p ↔
      ∃ pre post, ps = pre ++ p :: post ∧ p.label = pl ∧ ∀ q ∈ post, ¬ q.label = pl := by
  rw [lastPI?_eq, Model.findSome?_reverse_eq_some_iff]
  simp only [Option.ite_none_right_eq_some, Option.some.injEq, ite_eq_right_iff, reduceCtorEq, imp_false]
  constructor
  · rintro ⟨pre, a, post, rfl, ⟨hl, rfl⟩, hp⟩; exact ⟨pre, post, rfl, hl, hp⟩
  · rintro ⟨pre, post, rfl, hl, hp⟩; exact ⟨pre, p, post, rfl, ⟨hl, rfl⟩, hp⟩

/-- A message that is not an RA (RS, NS, NA, anything else) is counted and nothing more: one
    counter increment, no gauge is written, every gauge keeps its sample. -/
theorem non_ra_only_counted (ty h : Nat) (t : Time) (st : Store) :
    monitorHandle (.other ty) h t = [.inc (.received h ty) 1] ∧
    ∀ s, isCounter s = false → run st (monitorHandle (.other ty) h t) s = st s := by
  refine ⟨rfl, fun s hs => ?_⟩
  rw [run_handle, if_neg (by rintro rfl; cases hs)]
  rfl

/-! ### Sequences -/

/-- One more message: it is counted, it overrides exactly the gauges it says something about,
    and every other gauge keeps the value it had (repeated senders and prefixes: the later
    message wins). -/
theorem sequence_step (evs : List Event) (e : Event) (s : Series) :
    finalStore (evs ++ [e]) s =
      match s with
      | .received h ty =>
        if h = e.host ∧ ty = e.msg.typ then some ((finalStore evs s).getD 0 + 1) else finalStore evs s
      | _ => match eventGauge e s with
        | some v => some v
        | none => finalStore evs s := by
  have hrun : finalStore (evs ++ [e]) = run (finalStore evs) (monitorHandle e.msg e.host e.now) := by
    unfold finalStore opsOf
    rw [List.flatMap_append, run_append]
    simp
  rw [hrun, run_handle]
  cases s with
  | received h ty => simp only [Series.received.injEq, eventGauge_received]; rfl
  | _ => rw [if_neg (by simp)]; cases eventGauge e _ <;> rfl

/-- Last write wins, for sequences of any length: a gauge reads `v` at the end iff some
    message of the sequence says `v` about it and no later message says anything about it;
    it does not exist iff no message says anything about it. -/
theorem sequence_last_write_wins (evs : List Event) (s : Series) (hs : isCounter s = false) :
    (∀ v, finalStore evs s = some v ↔
      ∃ pre e post, evs = pre ++ e :: post ∧ eventGauge e s = some v ∧
        ∀ e' ∈ post, eventGauge e' s = none) ∧
    (finalStore evs s = none ↔ ∀ e ∈ evs, eventGauge e s = none) := by
  rw [finalStore, (run_opsOf_gauge evs _ s hs).trans (Option.or_none ..), lastWrite?_eq]
  exact ⟨fun _ => Model.findSome?_reverse_eq_some_iff, by simp [List.findSome?_eq_none_iff]⟩

/-! ### Labels: CIDR form and the malformed lengths -/

theorem label_eq_cidr_iff (p : PI) (a l : Nat) :
    p.label = .cidr a l ↔ p.addr = a ∧ p.len = l ∧ l ≤ 128 := by
  unfold PI.label
  constructor
  · intro e
    split at e
    next h => cases e; exact ⟨rfl, rfl, h⟩
    next => cases e
  · rintro ⟨rfl, rfl, h⟩; exact if_pos h

theorem label_eq_invalid_iff (p : PI) : p.label = .invalid ↔ p.malformed = true := by
  unfold PI.label PI.malformed
  split
  next h => exact ⟨nofun, fun hm => absurd (of_decide_eq_true hm) (Nat.not_lt.mpr h)⟩
  next h => exact ⟨fun _ => decide_eq_true (Nat.lt_of_not_le h), fun _ => rfl⟩

/-- "labelled by the prefix in CIDR form": a well-formed option is labelled by exactly its
    (address, length). -/
theorem label_of_wellFormed (p : PI) (h : p.len ≤ 128) : p.label = .cidr p.addr p.len :=
  if_pos h

/-- Well-formed options never share a label unless they are for the same (address, length). -/
theorem label_injective_of_wellFormed (p q : PI) (hq : q.len ≤ 128) :
    p.label = q.label ↔ p.addr = q.addr ∧ p.len = q.len := by
  rw [label_of_wellFormed q hq, label_eq_cidr_iff]
  exact ⟨fun ⟨h1, h2, _⟩ => ⟨h1, h2⟩, fun ⟨h1, h2⟩ => ⟨h1, h2, hq⟩⟩

/-- All malformed options collide on one label, whatever their addresses and lengths
    (this is where a transcription keyed by `(addr, len)` differs from the code), and never with a
    well-formed one. -/
theorem malformed_collide (p q : PI) (hp : 128 < p.len) (hq : 128 < q.len) :
    p.label = q.label ∧ ∀ w : PI, w.len ≤ 128 → w.label ≠ p.label := by
  have invalid {p : PI} (hp : 128 < p.len) : p.label = .invalid := if_neg (Nat.not_le.mpr hp)
  rw [invalid hp, invalid hq]
  exact ⟨rfl, fun w hw => label_of_wellFormed w hw ▸ nofun⟩

/-- No series labelled `a/l` with `l > 128` is ever written. -/
theorem no_cidr_label_above_128 (ra : RA) (h : Nat) (t : Time) (a l : Nat) (hl : 128 < l)
    (op : MetricOp) (hop : op ∈ monitorHandle (.ra ra) h t) (r : Nat) :
    op.key ≠ .prefixAutonomous (.cidr a l) r ∧ op.key ≠ .prefixOnLink (.cidr a l) r ∧
    op.key ≠ .prefixPreferred (.cidr a l) r ∧ op.key ≠ .prefixValid (.cidr a l) r := by
  have key (k : PGauge) : op.key ≠ k.series (.cidr a l) r := by
    intro e
    obtain ⟨_, _, _, p, _, hlab, _⟩ := prefix_writes_only_from_pi hop e
    have := ((label_eq_cidr_iff p a l).mp hlab).2.2
    omega
  exact ⟨key .autonomous, key .onLink, key .preferred, key .valid⟩

/-- The statement's form of `per_prefix_four`: a Prefix Information option whose length is a
    prefix length (≤ 128) writes the four gauges labelled by its prefix in CIDR form,
    (address, length), and the sender. -/
theorem per_prefix_four_cidr (ra : RA) (h : Nat) (t : Time) (p : PI) (hp : Opt.pi p ∈ ra.options)
    (hl : p.len ≤ 128) :
    MetricOp.set (.prefixAutonomous (.cidr p.addr p.len) h) (b2i p.autonomous) ∈ monitorHandle (.ra ra) h t ∧
    MetricOp.set (.prefixOnLink (.cidr p.addr p.len) h) (b2i p.onLink) ∈ monitorHandle (.ra ra) h t ∧
    MetricOp.set (.prefixPreferred (.cidr p.addr p.len) h) ((t + p.preferred) / 1000000000) ∈ monitorHandle (.ra ra) h t ∧
    MetricOp.set (.prefixValid (.cidr p.addr p.len) h) ((t + p.valid) / 1000000000) ∈ monitorHandle (.ra ra) h t := by
  have := per_prefix_four ra h t p hp
  rwa [label_of_wellFormed p hl] at this

/-- A write to a gauge labelled `a/l` comes from a Prefix Information option of this RA with
    exactly that address and length, the length being ≤ 128: a malformed option never writes
    (or overwrites) a CIDR-labelled series. -/
theorem prefix_writes_only_from_pi_cidr (ra : RA) (h : Nat) (t : Time) (a l r : Nat) (v : Int) :
    (MetricOp.set (.prefixAutonomous (.cidr a l) r) v ∈ monitorHandle (.ra ra) h t →
      r = h ∧ ∃ p, Opt.pi p ∈ ra.options ∧ p.addr = a ∧ p.len = l ∧ l ≤ 128 ∧ v = b2i p.autonomous) ∧
    (MetricOp.set (.prefixOnLink (.cidr a l) r) v ∈ monitorHandle (.ra ra) h t →
      r = h ∧ ∃ p, Opt.pi p ∈ ra.options ∧ p.addr = a ∧ p.len = l ∧ l ≤ 128 ∧ v = b2i p.onLink) ∧
    (MetricOp.set (.prefixPreferred (.cidr a l) r) v ∈ monitorHandle (.ra ra) h t →
      r = h ∧ ∃ p, Opt.pi p ∈ ra.options ∧ p.addr = a ∧ p.len = l ∧ l ≤ 128 ∧ v = (t + p.preferred) / 1000000000) ∧
    (MetricOp.set (.prefixValid (.cidr a l) r) v ∈ monitorHandle (.ra ra) h t →
      r = h ∧ ∃ p, Opt.pi p ∈ ra.options ∧ p.addr = a ∧ p.len = l ∧ l ≤ 128 ∧ v = (t + p.valid) / 1000000000) := by
  have key (k : PGauge) (hm : MetricOp.set (k.series (.cidr a l) r) v ∈ monitorHandle (.ra ra) h t) :
      r = h ∧ ∃ p, Opt.pi p ∈ ra.options ∧ p.addr = a ∧ p.len = l ∧ l ≤ 128 ∧ v = k.value t p := by
    obtain ⟨_, ⟨⟩, hr, p, hp, hlab, hv⟩ := prefix_writes_only_from_pi hm rfl
    obtain ⟨ha, hl, hle⟩ := (label_eq_cidr_iff p a l).mp hlab
    exact ⟨hr, p, hp, ha, hl, hle, (MetricOp.set.inj hv).2⟩
  exact ⟨key .autonomous, key .onLink, key .preferred, key .valid⟩

/-- The well-formed options of an RA are reported as if its malformed ones were not there: the
    value of a CIDR-labelled gauge (see `per_prefix_store`) depends on the well-formed options
    only. -/
theorem lastPI_cidr_ignores_malformed (a l : Nat) (ps : List PI) :
    lastPI? (.cidr a l) ps = lastPI? (.cidr a l) (ps.filter fun p => !p.malformed) := by
  rw [lastPI?_eq, lastPI?_eq, ← List.filter_reverse, Model.findSome?_filter_of]
  intro p hp
  rw [(label_eq_invalid_iff p).mpr (by simpa using hp)]
  exact if_neg nofun

/-! ### Agreement with the transcription keyed by (address, length)

  `legacyHandle` is the transcription that labels every option `addr/len`, whatever `len`.  On
  every message all of whose Prefix Information lengths are ≤ 128 it agrees with `monitorHandle`
  operation for operation; the last example shows them apart. -/

def legacyPrefixOps (host : Nat) (now : Time) (p : PI) : List MetricOp :=
  [ .set (.prefixAutonomous (.cidr p.addr p.len) host) (b2i p.autonomous),
    .set (.prefixOnLink (.cidr p.addr p.len) host) (b2i p.onLink),
    .set (.prefixPreferred (.cidr p.addr p.len) host) (unixSec (now + p.preferred)),
    .set (.prefixValid (.cidr p.addr p.len) host) (unixSec (now + p.valid)) ]

def legacyHandle (msg : Msg) (host : Nat) (now : Time) : List MetricOp :=
  .inc (.received host msg.typ) 1 ::
  match msg with
  | .ra ra =>
    [ .set (.flagManaged host) (b2i ra.managed), .set (.flagOther host) (b2i ra.other) ] ++
    (if ra.routerLifetime ≠ 0 then
      [ .set (.defaultRoute host) (unixSec (now + ra.routerLifetime)) ] else []) ++
    (pickPI ra.options).flatMap (legacyPrefixOps host now)
  | .other _ => []

def legacyOpsOf (evs : List Event) : List MetricOp :=
  evs.flatMap fun e => legacyHandle e.msg e.host e.now

theorem handle_eq_legacy (m : Msg) (h : Nat) (t : Time) (hw : wellFormedMsg m = true) :
    monitorHandle m h t = legacyHandle m h t := by
  cases m with
  | other ty => rfl
  | ra ra =>
    simp only [wellFormedMsg, wellFormedRA, ← pick_eq_prefixesOf, List.all_eq_true] at hw
    have : (pickPI ra.options).flatMap (prefixOps h t) =
        (pickPI ra.options).flatMap (legacyPrefixOps h t) := by
      apply Model.flatMap_congr
      intro p hp
      have hl : p.len ≤ 128 := by
        have := hw p hp
        simp only [PI.malformed, Bool.not_eq_true', decide_eq_false_iff_not] at this
        omega
      simp only [prefixOps, legacyPrefixOps, label_of_wellFormed p hl]
    simp only [monitorHandle, legacyHandle, raOps, this]

/-- For sequences in which every Prefix Information length is ≤ 128, the model performs
    exactly the operations of the transcription keyed by (address, length) — hence the same store, the
    same observation and the same canonical output. -/
theorem opsOf_eq_legacy (evs : List Event) (hw : wellFormedLens evs = true) :
    opsOf evs = legacyOpsOf evs ∧ finalStore evs = run Store.empty (legacyOpsOf evs) := by
  have h : opsOf evs = legacyOpsOf evs := by
    unfold opsOf legacyOpsOf
    apply Model.flatMap_congr
    intro e he
    simp only [wellFormedLens, List.all_eq_true] at hw
    exact handle_eq_legacy _ _ _ (hw e he)
  exact ⟨h, by unfold finalStore; rw [h]⟩

/-! ### The model meets the oracle -/

private theorem touchedBy_eq (e : Event) :
    touchedBy e = (monitorHandle e.msg e.host e.now).map MetricOp.key := by
  unfold touchedBy monitorHandle
  cases hm : e.msg with
  | other ty => simp [MetricOp.key]
  | ra ra =>
    simp only [raOps, List.map_cons, List.map_append, MetricOp.key, List.map_flatMap, prefixOps,
      List.map_nil, pick_eq_prefixesOf]
    by_cases hl : ra.routerLifetime = 0 <;> simp [hl, MetricOp.key]

private theorem touched_eq (evs : List Event) : touched evs = (opsOf evs).map MetricOp.key := by
  unfold touched opsOf
  rw [List.map_flatMap]
  congr 1
  funext e
  exact touchedBy_eq e

/-- The spec's enumeration of series is exact: a series is expected to exist iff some message
    of the sequence gives rise to it. -/
theorem touched_exact (evs : List Event) (s : Series) :
    s ∈ touched evs ↔ expected evs s ≠ none := by
  rw [touched_eq, ← final_store_eq_expected, finalStore, ← Option.isSome_iff_ne_none, run_isSome]
  simp [Store.empty]

private theorem keys_observe_sublist (f : Series → Option Int) (l : List Series) :
    ((l.filterMap fun s => match f s with | some v => some (s, v) | none => none).map Prod.fst).Sublist l := by
  induction l with
  | nil => simp
  | cons a r ih =>
    rw [List.filterMap_cons]
    cases f a with
    | none => exact List.Sublist.cons _ ih
    | some v => exact List.Sublist.cons_cons _ ih

private theorem mem_observe (evs : List Event) (s : Series) (v : Int) :
    (s, v) ∈ observe evs ↔ s ∈ touched evs ∧ finalStore evs s = some v := by
  unfold observe
  rw [List.mem_filterMap, touched_eq]
  constructor
  · rintro ⟨k, hk, hv⟩
    cases hf : finalStore evs k with
    | none => simp [hf] at hv
    | some w =>
      simp only [hf, Option.some.injEq, Prod.mk.injEq] at hv
      obtain ⟨rfl, rfl⟩ := hv
      exact ⟨Model.mem_dedupe.mp hk, hf⟩
  · rintro ⟨hk, hv⟩
    exact ⟨s, Model.mem_dedupe.mpr hk, by simp [hv]⟩

/-! ### The oracle and the malformed lengths -/

private theorem sentMalformed_of_touched (evs : List Event) (s : Series) (ho : outOfScope s = true)
    (hs : s ∈ touched evs) : sentMalformed evs (seriesHost s) = true := by
  obtain ⟨k, r, rfl⟩ := outOfScope_invalid ho
  obtain ⟨e, he, hse⟩ := List.mem_flatMap.mp hs
  rw [touchedBy_eq, List.mem_map] at hse
  obtain ⟨op, hop, hk⟩ := hse
  obtain ⟨ra, hm, rfl, p, hp, hlab, -⟩ := prefix_writes_only_from_pi hop hk
  have hwf : wellFormedRA ra = false := Bool.eq_false_iff.mpr fun hwf => by
    have := List.all_eq_true.mp hwf p ((mem_prefixesOf p ra).mpr hp)
    rw [(label_eq_invalid_iff p).mp hlab] at this
    cases this
  exact List.any_eq_true.mpr ⟨e, he, by simp [hm, wellFormedMsg, hwf]⟩

theorem holds_iff (evs : List Event) (obs : List (Series × Int)) :
    holds evs obs = true ↔
      (keys obs).Nodup ∧
      (∀ s v, (s, v) ∈ obs →
        if outOfScope s then sentMalformed evs (seriesHost s) = true else expected evs s = some v) ∧
      ∀ s ∈ touched evs, outOfScope s = false → s ∈ keys obs := by
  simp only [holds, uniqueKeys, sound, complete, Bool.and_eq_true, decide_eq_true_eq, List.all_eq_true,
    Prod.forall, Bool.or_eq_true, List.contains_eq_mem, and_assoc]
  refine and_congr Iff.rfl (and_congr ?_ ?_)
  · refine forall_congr' fun s => forall_congr' fun v => imp_congr_right fun _ => ?_
    cases outOfScope s <;> simp
  · refine forall_congr' fun s => imp_congr_right fun _ => ?_
    cases outOfScope s <;> simp

/-- The canonical output of the model (what `vfdriver` prints and the harness compares with the
    implementation's series) satisfies the oracle, for every message sequence — malformed
    prefix lengths included. -/
theorem holds_model (evs : List Event) : holds evs (canonical (observe evs)) = true := by
  refine (holds_iff _ _).mpr ⟨?_, fun s v hm => ?_, fun s hs _ => ?_⟩
  · unfold keys canonical
    rw [((Model.sortBy_perm _ _).map Prod.fst).nodup_iff]
    exact (keys_observe_sublist (finalStore evs) _).nodup (Model.nodup_dedupe _)
  · have hobs := (mem_observe evs s v).mp (Model.mem_sortBy.mp hm)
    split
    next ho => exact sentMalformed_of_touched evs s ho hobs.1
    next => exact final_store_eq_expected evs s ▸ hobs.2
  · cases hv : expected evs s with
    | none => exact absurd hv ((touched_exact evs s).mp hs)
    | some v =>
      have : (s, v) ∈ observe evs := (mem_observe evs s v).mpr ⟨hs, (final_store_eq_expected evs s).trans hv⟩
      exact List.mem_map.mpr ⟨(s, v), Model.mem_sortBy.mpr this, rfl⟩

/-- The oracle pins the observation down on every series the statement speaks about — all of
    them but the prefix gauges under the literal label `invalid Prefix`: whatever satisfies it
    reads there exactly what the model computes.  In particular, also in the presence of
    malformed options, the message counter counts the RA and every well-formed option of the
    same RA is reported exactly (so the oracle accepts nothing that loses or misreports them). -/
theorem holds_unique (evs : List Event) (obs : List (Series × Int)) (h : holds evs obs = true)
    (s : Series) (hs : outOfScope s = false) (v : Int) :
    (s, v) ∈ obs ↔ finalStore evs s = some v := by
  obtain ⟨_, hsound, hcomp⟩ := (holds_iff evs obs).mp h
  have inScope (w : Int) (hm : (s, w) ∈ obs) : expected evs s = some w := by
    simpa [hs] using hsound s w hm
  rw [final_store_eq_expected]
  refine ⟨inScope v, fun he => ?_⟩
  obtain ⟨⟨s', w⟩, hm, rfl⟩ := List.mem_map.mp (hcomp _ ((touched_exact evs _).mpr (by rw [he]; simp)) hs)
  cases (inScope w hm).symm.trans he
  exact hm

/-- The out-of-scope series are only tolerated for a router that did send a malformed option. -/
theorem holds_invalid_only_if_sent (evs : List Event) (obs : List (Series × Int))
    (h : holds evs obs = true) (s : Series) (hs : outOfScope s = true) (v : Int)
    (hm : (s, v) ∈ obs) : sentMalformed evs (seriesHost s) = true := by
  simpa [hs] using ((holds_iff evs obs).mp h).2.1 s v hm

/-- For sequences in which every Prefix Information length is ≤ 128 — the inputs on which "the
    prefix in CIDR form" exists throughout — the oracle is exact on *every* series:
    no `invalid Prefix` series may be reported and none is computed. -/
theorem holds_unique_wellFormed (evs : List Event) (hw : wellFormedLens evs = true)
    (obs : List (Series × Int)) (h : holds evs obs = true) (s : Series) (v : Int) :
    (s, v) ∈ obs ↔ finalStore evs s = some v := by
  cases hs : outOfScope s with
  | false => exact holds_unique evs obs h s hs v
  | true =>
    have hno : sentMalformed evs (seriesHost s) = false :=
      List.any_eq_false.mpr fun e he => by simp [List.all_eq_true.mp hw e he]
    constructor
    · intro hm
      rw [holds_invalid_only_if_sent evs obs h s hs v hm] at hno; cases hno
    · intro hf
      have hst : s ∈ touched evs :=
        (touched_exact evs s).mpr (by rw [← final_store_eq_expected, hf]; simp)
      rw [sentMalformed_of_touched evs s hs hst] at hno; cases hno

/-! ### Non-vacuity -/

/-- Two routers; router 1 sends an RA (lifetime 1800 s, prefix 100/64 twice, an MTU option in
    between) at 1.5 s, an RS, then an RA with lifetime 0 and infinite preferred lifetime at 10 s;
    router 2 sends an NA.  The default-route gauge of router 1 survives the lifetime-0 RA, the
    prefix gauges are overwritten, flags follow the last RA. -/
example :
    let pi1 : PI := { addr := 100, len := 64, onLink := true, autonomous := false,
                      preferred := 60 * second, valid := 120 * second }
    let pi2 : PI := { pi1 with autonomous := true, valid := 90 * second + 700000000 }
    let pi3 : PI := { pi1 with onLink := false, preferred := infinity, valid := 0 }
    let evs : List Event := [
      ⟨.ra { managed := true, other := false, routerLifetime := 1800 * second,
             options := [.pi pi1, .other 5, .pi pi2] }, 1, 1500000000⟩,
      ⟨.other 133, 1, 2000000000⟩,
      ⟨.other 136, 2, 3000000000⟩,
      ⟨.ra { managed := false, other := true, routerLifetime := 0, options := [.pi pi3] }, 1,
        10 * second⟩ ]
    wellFormedLens evs = true ∧
    holds evs (canonical (observe evs)) = true ∧
    finalStore evs (.received 1 134) = some 2 ∧ finalStore evs (.received 1 133) = some 1 ∧
    finalStore evs (.received 2 136) = some 1 ∧ finalStore evs (.received 2 134) = none ∧
    finalStore evs (.flagManaged 1) = some 0 ∧ finalStore evs (.flagOther 1) = some 1 ∧
    finalStore evs (.flagManaged 2) = none ∧
    finalStore evs (.defaultRoute 1) = some 1801 ∧
    finalStore (evs.take 1) (.prefixAutonomous (.cidr 100 64) 1) = some 1 ∧
    finalStore (evs.take 1) (.prefixValid (.cidr 100 64) 1) = some 92 ∧
    finalStore evs (.prefixOnLink (.cidr 100 64) 1) = some 0 ∧
    finalStore evs (.prefixPreferred (.cidr 100 64) 1) = some 4294967305 ∧
    finalStore evs (.prefixValid (.cidr 100 64) 1) = some 10 ∧
    (canonical (observe evs)).length = 10 := by
  decide +kernel

/-- The oracle rejects what the mutations of the drill produce: a default-route gauge for a
    lifetime-0 RA, and swapped preferred/valid timestamps. -/
example :
    let ev0 : List Event := [⟨.ra { managed := false, other := true, routerLifetime := 0, options := [] }, 1, 0⟩]
    holds ev0 [(.received 1 134, 1), (.flagManaged 1, 0), (.flagOther 1, 1), (.defaultRoute 1, 0)] = false ∧
    holds ev0 [(.received 1 134, 1), (.flagManaged 1, 0), (.flagOther 1, 1)] = true ∧
    holds ev0 [(.received 1 134, 1), (.flagManaged 1, 0)] = false := by
  decide +kernel

/-- Malformed prefix lengths.  One RA from router 1 at t = 0 carries, in this order, a Prefix
    Information option 100/200 (malformed), the well-formed 100/64 (same address), and 7/255
    (malformed).  What the model — like `handle` — does: both malformed options land on the one
    label `invalid Prefix`, the later (7/255) overwrites the earlier, so there are 3 + 4 + 4 = 11
    series where the (address, length)-keyed transcription has 15; 100/64 is reported exactly;
    nothing is labelled 100/200.  What the oracle does: it accepts this observation, it accepts
    equally an observation without the `invalid Prefix` series or with other values there, and
    it rejects: a series labelled 100/200, a lost or wrong well-formed series, a missing message
    count, and an `invalid Prefix` series for a router that sent no malformed option. -/
example :
    let bad1 : PI := { addr := 100, len := 200, onLink := false, autonomous := true,
                       preferred := 10 * second, valid := 20 * second }
    let good : PI := { addr := 100, len := 64, onLink := true, autonomous := false,
                       preferred := 60 * second, valid := 120 * second }
    let bad2 : PI := { addr := 7, len := 255, onLink := true, autonomous := false,
                       preferred := 30 * second, valid := 40 * second }
    let ra : RA := { managed := false, other := false, routerLifetime := 0,
                     options := [.pi bad1, .pi good, .pi bad2] }
    let evs : List Event := [⟨.ra ra, 1, 0⟩]
    let obs := canonical (observe evs)
    let inScope := obs.filter fun x => !outOfScope x.1
    wellFormedLens evs = false ∧
    bad1.label = .invalid ∧ bad2.label = .invalid ∧ good.label = .cidr 100 64 ∧
    monitorHandle (.ra ra) 1 0 ≠ legacyHandle (.ra ra) 1 0 ∧
    obs.length = 11 ∧ (Model.dedupe ((legacyOpsOf evs).map MetricOp.key)).length = 15 ∧
    finalStore evs (.received 1 134) = some 1 ∧
    finalStore evs (.prefixOnLink (.cidr 100 64) 1) = some 1 ∧
    finalStore evs (.prefixValid (.cidr 100 64) 1) = some 120 ∧
    finalStore evs (.prefixAutonomous .invalid 1) = some 0 ∧
    finalStore evs (.prefixPreferred .invalid 1) = some 30 ∧
    finalStore evs (.prefixValid .invalid 1) = some 40 ∧
    finalStore evs (.prefixValid (.cidr 100 200) 1) = none ∧
    finalStore evs (.prefixValid (.cidr 7 255) 1) = none ∧
    holds evs obs = true ∧
    inScope.length = 7 ∧ holds evs inScope = true ∧
    holds evs ((.prefixValid .invalid 1, 20) :: inScope) = true ∧
    holds evs ((.prefixValid (.cidr 100 200) 1, 20) :: obs) = false ∧
    holds evs (obs.filter fun x => x.1 != .prefixValid (.cidr 100 64) 1) = false ∧
    holds evs (obs.map fun x => if x.1 = .prefixValid (.cidr 100 64) 1 then (x.1, 40) else x) = false ∧
    holds evs (obs.filter fun x => x.1 != .received 1 134) = false ∧
    holds evs ((.prefixValid .invalid 2, 40) :: obs) = false ∧
    holds [⟨.ra { ra with options := [.pi good] }, 1, 0⟩]
      ((.prefixValid .invalid 1, 40) :: canonical (observe [⟨.ra { ra with options := [.pi good] }, 1, 0⟩])) = false := by
  decide +kernel

end Corerad.Props.C18
