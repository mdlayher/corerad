/-
  C01 — every RA carries exactly what the configuration calls for.

  The RA built by the model of `config.Interface.RouterAdvertisement` from the *parsed*
  interface (C02: `parseInterface n i = some (expInterface n i)` for a documented stanza)
  equals the declarative per-stanza RA `Spec.C01.expectedRA`: header fields from the
  configuration, then the options of every prefix, route, RDNSS, DNSSL stanza, MTU, source
  link-layer address, captive portal and PREF64 — in that order, and nothing else; generation
  fails on one side exactly when it fails on the other (`ra_eq_spec`, `parse_then_build`).
-/
import Corerad.Spec.C01
import Corerad.Props.C02
import Corerad.Props.C16
import Corerad.Lemmas.RA

namespace Corerad.Props.C01

open Corerad Corerad.Model Corerad.Spec.C02 Corerad.Spec.C01
open Corerad.Props.C02 (wfIface parseInterface_eq)

/-! ### per-stanza: the parsed plugin's `Apply` against the declarative options -/

theorem prefixLifetimes_eq (dep : Bool) (sys : SysState) (v pr : Dur) :
    prefixLifetimes dep sys.epoch v pr sys.now = (lifetimeNow dep sys v, lifetimeNow dep sys pr) := by
  unfold prefixLifetimes lifetimeNow
  cases dep
  · rfl
  · simp only [Bool.not_true, Bool.false_eq_true, if_false, if_true, Props.C16.eq_clamped_remaining]

theorem routeLifetime_eq (dep : Bool) (sys : SysState) (l : Dur) :
    routeLifetime dep sys.epoch l sys.now = lifetimeNow dep sys l := by
  unfold routeLifetime lifetimeNow
  cases dep
  · rfl
  · simp only [Bool.not_true, Bool.false_eq_true, if_false, if_true, Props.C16.eq_clamped_remaining]

/-- the documented wildcard is `::/64`, so the expansion runs with `bits = 64` -/
theorem prefix_apply (sys : SysState) (p : RawPrefix) : (expPrefix p).apply sys = prefixOpts sys p := by
  unfold expPrefix prefixOpts Plugin.apply
  simp only [prefixLifetimes_eq]
  generalize (pfxOf wildPrefix p.pstr).getD wildPrefix = q
  by_cases hq : q = wildPrefix
  · subst hq
    simp only [beq_self_eq_true, Bool.not_true, Bool.false_eq_true, if_false, if_true]
    cases sys.addrs <;> rfl
  · have : (q == wildPrefix) = false := by simpa using hq
    simp only [this, Bool.not_false, if_true, Bool.false_eq_true, if_false]

theorem route_apply (sys : SysState) (r : RawRoute) : (expRoute r).apply sys = routeOpts sys r := by
  unfold expRoute routeOpts Plugin.apply
  simp only [routeLifetime_eq]
  generalize (pfxOf wildRoute r.pstr).getD wildRoute = q
  by_cases hq : q = wildRoute
  · subst hq
    simp only [beq_self_eq_true, Bool.not_true, Bool.false_eq_true, if_false, if_true]
    cases sys.routes <;> rfl
  · have : (q == wildRoute) = false := by simpa using hq
    simp only [this, Bool.not_false, if_true, Bool.false_eq_true, if_false]

theorem rdnss_apply (sys : SysState) (maxI : Dur) (d : RawRDNSS) :
    (expRDNSS maxI d).apply sys = rdnssOpts sys maxI d := by
  unfold expRDNSS rdnssOpts Plugin.apply applyRDNSS
  simp only
  cases (d.servers.isEmpty || (d.servers.map serverAddr).any (·.isUnspecified)) with
  | false => rfl
  | true =>
    simp only [Bool.not_true, Bool.false_eq_true, if_false, if_true]
    cases sys.addrs with
    | none => rfl
    | some as =>
      dsimp only
      cases currentRDNSS as <;> rfl

theorem dnssl_apply (sys : SysState) (maxI : Dur) (d : RawDNSSL) :
    (expDNSSL maxI d).apply sys = some [Opt.dnssl ((resolve d.lifetime (3 * maxI)).getD 0) d.names] := rfl

theorem mtu_apply (sys : SysState) (m : Int) : (Plugin.mtu m).apply sys = some [Opt.mtu m] := rfl

theorem lla_apply (sys : SysState) :
    Plugin.lla.apply sys = some (match sys.mac with | none => [] | some (l, m) => [Opt.lla l m]) := by
  unfold Plugin.apply
  cases sys.mac with
  | none => rfl
  | some x => cases x; rfl

theorem portal_apply (sys : SysState) (u l : Nat) :
    (Plugin.captivePortal u l).apply sys = some [Opt.captivePortal u l] := rfl

theorem pref64_apply (sys : SysState) (p : Prefix) (l : Dur) :
    (Plugin.pref64 p l).apply sys = some [Opt.pref64 p l] := rfl

theorem concatOpts_cons (x : Option (List Opt)) (xs : List (Option (List Opt))) :
    concatOpts (x :: xs) = optAppend x (concatOpts xs) := by
  cases x with
  | none => rfl
  | some a => exact (optAppend_some_left a _).symm

theorem applyAll_eq_concat (sys : SysState) (ps : List Plugin) :
    applyAll sys ps = concatOpts (ps.map (Plugin.apply sys)) := by
  induction ps with
  | nil => rfl
  | cons p ps ih => rw [applyAll_cons, ih, List.map_cons, concatOpts_cons]

theorem concatOpts_append (a b : List (Option (List Opt))) :
    concatOpts (a ++ b) = optAppend (concatOpts a) (concatOpts b) := by
  induction a with
  | nil => show concatOpts b = optAppend (some []) (concatOpts b); cases concatOpts b <;> rfl
  | cons x xs ih => rw [List.cons_append, concatOpts_cons, concatOpts_cons, ih, optAppend_assoc]

theorem applyAll_append (sys : SysState) (a b : List Plugin) :
    applyAll sys (a ++ b) = optAppend (applyAll sys a) (applyAll sys b) := by
  rw [applyAll_eq_concat, applyAll_eq_concat, applyAll_eq_concat, List.map_append, concatOpts_append]

theorem applyAll_map {α : Type} (sys : SysState) (e : α → Plugin) (f : α → Option (List Opt)) (l : List α)
    (h : ∀ x, (e x).apply sys = f x) : applyAll sys (l.map e) = concatOpts (l.map f) := by
  rw [applyAll_eq_concat, List.map_map, show Plugin.apply sys ∘ e = f from funext h]

theorem options_eq_spec (i : RawInterface) (sys : SysState) (maxI : Dur) :
    applyAll sys (expPlugins i maxI) = expectedOptions i sys maxI := by
  unfold expPlugins expectedOptions
  simp only [applyAll_append, concatOpts_append]
  rw [applyAll_map sys expPrefix (prefixOpts sys) i.prefixes (prefix_apply sys),
    applyAll_map sys expRoute (routeOpts sys) i.routes (route_apply sys),
    applyAll_map sys (expRDNSS maxI) (rdnssOpts sys maxI) i.rdnss (rdnss_apply sys maxI),
    applyAll_map sys (expDNSSL maxI) _ i.dnssl (dnssl_apply sys maxI),
    applyAll_map sys (fun p => Plugin.pref64 ((pref64Of p).getD wellKnown64) (Spec.C02.pref64Lifetime maxI)) _
      i.pref64 (fun _ => pref64_apply sys _ _)]
  have hmtu : applyAll sys (if (i.mtu != 0) = true then [Plugin.mtu i.mtu] else []) =
      concatOpts [some (if (i.mtu != 0) = true then [Opt.mtu i.mtu] else [])] := by
    cases (i.mtu != 0) <;> rfl
  have hlla : applyAll sys (if i.sourceLLA.getD true = true then [Plugin.lla] else []) =
      concatOpts [some (if i.sourceLLA.getD true = true then
        (match sys.mac with | none => [] | some (l, m) => [Opt.lla l m]) else [])] := by
    cases i.sourceLLA.getD true with
    | false => rfl
    | true =>
      simp only [if_true, applyAll, lla_apply, concatOpts, Option.map_some, List.append_nil]
  rw [hmtu, hlla]
  cases i.captivePortal <;> rfl

/-! ### the whole RA -/

theorem lifetimeOf_bounds (s : DurStr) (maxI : Dur) (h0 : 0 ≤ maxI) :
    0 ≤ (lifetimeOf s maxI).getD 0 ∧ (lifetimeOf s maxI).getD 0 ≤ 9000 * second := by
  have hz : (0 : Dur) ≤ 0 ∧ (0 : Dur) ≤ 9000 * second := by decide
  unfold lifetimeOf
  cases resolve s (3 * maxI) with
  | none => exact hz
  | some l =>
    simp only
    split
    · simp only [Option.getD_some]; omega
    · exact hz

theorem lifetimeOf_nonneg (s : DurStr) (maxI : Dur) (h0 : 0 ≤ maxI) : 0 ≤ (lifetimeOf s maxI).getD 0 :=
  (lifetimeOf_bounds s maxI h0).1

theorem expInterface_lifetime_nonneg (n : Nat) (i : RawInterface) (hdoc : docInterface i = true) :
    0 ≤ (expInterface n i).defaultLifetime := by
  cases hmon : i.monitor with
  | true => simp only [expInterface, hmon, if_true]; exact Int.le_refl 0
  | false =>
    obtain ⟨maxI, hm, h4, -⟩ := Props.C02.docInterface_adv i hdoc hmon
    simp only [expInterface, hmon, Bool.false_eq_true, if_false, hm, Option.getD_some]
    exact lifetimeOf_nonneg _ _ (by unfold second at h4; omega)

theorem expectedRA_false (i : RawInterface) (sys : SysState) :
    expectedRA i sys false = (expectedRA i sys true).map fun ra => { ra with routerLifetime := 0 } := by
  simp only [expectedRA, Option.map_map]
  rfl

/-- **C01.**  The build from the resolved interface of a documented advertising stanza returns the
    RA the stanza calls for — header and options, in order, nothing else — and reports the
    misconfiguration iff it does not forward and the resolved default lifetime is positive;
    generation fails exactly when the specification says it must. -/
theorem build_eq (n : Nat) (i : RawInterface) (sys : SysState) (fw : Bool)
    (hdoc : docInterface i = true) (hadv : i.monitor = false) :
    routerAdvertisement (expInterface n i) sys fw =
      (expectedRA i sys fw).map fun ra =>
        (ra, decide (fw = false ∧ 0 < (expInterface n i).defaultLifetime)) := by
  have h0 := expInterface_lifetime_nonneg n i hdoc
  rw [routerAdvertisement_eq]
  simp only [expInterface, hadv, Bool.false_eq_true, if_false] at h0 ⊢
  simp only [options_eq_spec, expectedRA, Option.map_map]
  congr 1; funext opts
  cases fw
  · simp [finishRA_eq, zeroed_of_nonneg h0]
  · simp [finishRA_eq]

theorem build_eq_spec (n : Nat) (i : RawInterface) (sys : SysState) (fw : Bool)
    (hdoc : docInterface i = true) (hadv : i.monitor = false) :
    (routerAdvertisement (expInterface n i) sys fw).map (·.1) = expectedRA i sys fw := by
  rw [build_eq n i sys fw hdoc hadv, Option.map_map]
  exact Option.map_id'

/-- the statement with the input well-formedness hypothesis of C02 (not needed here: the
    per-stanza lemmas hold for every raw stanza) -/
theorem ra_eq_spec (n : Nat) (i : RawInterface) (sys : SysState) (fw : Bool) (_hwf : wfIface i = true)
    (hdoc : docInterface i = true) (hadv : i.monitor = false) :
    (routerAdvertisement (expInterface n i) sys fw).map (·.1) = expectedRA i sys fw :=
  build_eq_spec n i sys fw hdoc hadv

/-- parse, then build: whatever interface the parser returns for an advertising stanza, the RA
    built from it is the RA the stanza calls for -/
theorem parse_then_build (n : Nat) (i : RawInterface) (sys : SysState) (fw : Bool) (hwf : wfIface i = true)
    (hadv : i.monitor = false) (ifi : Interface) (h : parseInterface n i = some ifi) :
    (routerAdvertisement ifi sys fw).map (·.1) = expectedRA i sys fw := by
  obtain ⟨hd, rfl⟩ := Props.C02.parsed n i hwf ifi h
  exact build_eq_spec n i sys fw hd hadv

/-- the misconfiguration flag of the same build: reported iff not forwarding and the stanza's
    resolved default lifetime is positive -/
theorem build_misconfig (n : Nat) (i : RawInterface) (sys : SysState) (fw : Bool) (hadv : i.monitor = false)
    (ra : RA) (mis : Bool) (h : routerAdvertisement (expInterface n i) sys fw = some (ra, mis)) :
    mis = (!fw && decide (0 < (lifetimeOf i.defaultLifetime ((plainDur i.maxInterval (600 * second)).getD 0)).getD 0)) := by
  obtain ⟨opts, -, h⟩ := routerAdvertisement_eq_some.mp h
  rw [finishRA_eq] at h
  cases h
  cases fw <;> simp [expInterface, hadv]

/-! ### plugin order and counts -/

theorem kinds_eq (i : RawInterface) (maxI : Dur) :
    (expPlugins i maxI).map Plugin.kind =
      List.replicate i.prefixes.length 0 ++ List.replicate i.routes.length 1 ++
      List.replicate i.rdnss.length 2 ++ List.replicate i.dnssl.length 3 ++
      List.replicate (if i.mtu ≠ 0 then 1 else 0) 4 ++
      List.replicate (if i.sourceLLA.getD true then 1 else 0) 5 ++
      List.replicate (match i.captivePortal with | .ok _ _ => 1 | _ => 0) 6 ++
      List.replicate i.pref64.length 7 := by
  simp only [expPlugins, List.map_append, List.map_map, Function.comp_def, expPrefix, expRoute, expRDNSS, expDNSSL,
    Plugin.kind, List.map_const']
  congr 1; congr 1; congr 1; congr 1
  · by_cases h : i.mtu = 0 <;> simp [h, Plugin.kind]
  · cases i.sourceLLA.getD true <;> rfl
  · cases i.captivePortal <;> rfl

theorem sorted_append_replicate {l : List Nat} {j k : Nat} (n : Nat) (hjk : j ≤ k)
    (h : l.Pairwise (· ≤ ·) ∧ ∀ x ∈ l, x ≤ j) :
    (l ++ List.replicate n k).Pairwise (· ≤ ·) ∧ ∀ x ∈ l ++ List.replicate n k, x ≤ k := by
  refine ⟨List.pairwise_append.mpr ⟨h.1, List.pairwise_replicate.mpr (.inr (Nat.le_refl k)), fun a ha b hb => ?_⟩,
    fun x hx => ?_⟩
  · rw [(List.mem_replicate.mp hb).2]; exact Nat.le_trans (h.2 a ha) hjk
  · rcases List.mem_append.mp hx with hx | hx
    · exact Nat.le_trans (h.2 x hx) hjk
    · exact Nat.le_of_eq (List.mem_replicate.mp hx).2

/-- the plugins are applied in the documented order: prefixes, routes, RDNSS, DNSSL, MTU,
    source LLA, captive portal, PREF64 -/
theorem plugins_order (i : RawInterface) (maxI : Dur) :
    ((expPlugins i maxI).map Plugin.kind).Pairwise (· ≤ ·) := by
  rw [kinds_eq]
  have h0 : ([] : List Nat).Pairwise (· ≤ ·) ∧ ∀ x ∈ ([] : List Nat), x ≤ 0 := ⟨.nil, nofun⟩
  exact (sorted_append_replicate _ (by decide) <| sorted_append_replicate _ (by decide) <|
    sorted_append_replicate _ (by decide) <| sorted_append_replicate _ (by decide) <|
    sorted_append_replicate _ (by decide) <| sorted_append_replicate _ (by decide) <|
    sorted_append_replicate _ (by decide) <| sorted_append_replicate (k := 0) _ (Nat.le_refl 0) h0).1

/-- … and their options appear in that order in every RA (`ra_eq_spec`), because `applyAll`
    concatenates in list order -/
theorem count_kinds (i : RawInterface) (maxI : Dur) :
    let ks := (expPlugins i maxI).map Plugin.kind
    ks.count 0 = i.prefixes.length ∧ ks.count 1 = i.routes.length ∧ ks.count 2 = i.rdnss.length ∧
    ks.count 3 = i.dnssl.length ∧ ks.count 4 = (if i.mtu ≠ 0 then 1 else 0) ∧
    ks.count 5 = (if i.sourceLLA.getD true then 1 else 0) ∧
    ks.count 6 = (match i.captivePortal with | .ok _ _ => 1 | _ => 0) ∧
    ks.count 7 = i.pref64.length ∧ ks.length = i.prefixes.length + i.routes.length + i.rdnss.length +
      i.dnssl.length + (if i.mtu ≠ 0 then 1 else 0) + (if i.sourceLLA.getD true then 1 else 0) +
      (match i.captivePortal with | .ok _ _ => 1 | _ => 0) + i.pref64.length := by
  simp only [kinds_eq, List.count_append, List.count_replicate, List.length_append, List.length_replicate]
  simp

theorem mem_expPlugins (i : RawInterface) (maxI : Dur) (x : Plugin) :
    x ∈ expPlugins i maxI ↔
      (∃ p ∈ i.prefixes, expPrefix p = x) ∨ (∃ r ∈ i.routes, expRoute r = x) ∨
      (∃ d ∈ i.rdnss, expRDNSS maxI d = x) ∨ (∃ d ∈ i.dnssl, expDNSSL maxI d = x) ∨
      (i.mtu ≠ 0 ∧ x = .mtu i.mtu) ∨ (i.sourceLLA.getD true = true ∧ x = .lla) ∨
      (∃ u l, i.captivePortal = .ok u l ∧ x = .captivePortal u l) ∨
      (∃ p ∈ i.pref64, .pref64 ((pref64Of p).getD wellKnown64) (Spec.C02.pref64Lifetime maxI) = x) := by
  simp only [expPlugins, List.mem_append, List.mem_map, List.mem_ite_nil_right, List.mem_singleton, bne_iff_ne,
    or_assoc]
  cases i.captivePortal <;> simp [and_assoc]

theorem mtu_iff (i : RawInterface) (maxI : Dur) (m : Int) :
    Plugin.mtu m ∈ expPlugins i maxI ↔ (i.mtu ≠ 0 ∧ m = i.mtu) := by
  simp [mem_expPlugins, expPrefix, expRoute, expRDNSS, expDNSSL]

theorem lla_iff (i : RawInterface) (maxI : Dur) : Plugin.lla ∈ expPlugins i maxI ↔ i.sourceLLA.getD true = true := by
  simp [mem_expPlugins, expPrefix, expRoute, expRDNSS, expDNSSL]

theorem portal_iff (i : RawInterface) (maxI : Dur) (u l : Nat) :
    Plugin.captivePortal u l ∈ expPlugins i maxI ↔ i.captivePortal = .ok u l := by
  simp only [mem_expPlugins, expPrefix, expRoute, expRDNSS, expDNSSL, reduceCtorEq, and_false, exists_false, false_or,
    or_false, Plugin.captivePortal.injEq]
  exact ⟨fun ⟨_, _, h, rfl, rfl⟩ => h, fun h => ⟨u, l, h, rfl, rfl⟩⟩

/-- the source order of the `append` calls in `parsePlugins` is the documented one (breaks if
    the source changes) -/
theorem gen_append_order :
    Gen.Config.pluginAppendOrder =
      ["p", "r", "rdnss", "dnssl", "plugin.NewMTU(ifi.MTU)", "&plugin.LLA{…}", "cp",
       "plugin.NewPREF64(prefix, maxInterval)"] := rfl

/-! ### the PREF64 lifetime -/

theorem ceil8s_spec (d : Dur) :
    Spec.C02.ceil8s d % (8 * second) = 0 ∧ d ≤ Spec.C02.ceil8s d ∧ Spec.C02.ceil8s d < d + 8 * second :=
  ceil_spec sec8_pos d

/-- for every accepted `max_interval` (at most 1800 s) the cap of 65528 s is never reached -/
theorem pref64Lifetime_eq_ceil8s (maxI : Dur) (h : 3 * maxI ≤ 65528 * second) :
    Spec.C02.pref64Lifetime maxI = Spec.C02.ceil8s (3 * maxI) :=
  Int.min_eq_right (ceil_le sec8_pos (by decide) h)

theorem below_cap {maxI : Dur} (h : maxI ≤ 1800 * second) : 3 * maxI ≤ 65528 * second := by
  unfold second at *
  omega

theorem pref64_cap (maxI : Dur) (_h : 0 ≤ maxI) : Spec.C02.pref64Lifetime maxI ≤ 65528 * second :=
  Int.min_le_left _ _

-- `h4` is not needed: below the cap the lifetime is `ceil8s (3·max)` whatever the lower bound
set_option linter.unusedVariables false in
/-- never less than 3·MaxRtrAdvInterval (also for a fractional interval), and less than 8 s above -/
theorem pref64_lifetime_ge (maxI : Dur) (h4 : 4 * second ≤ maxI) (h1800 : maxI ≤ 1800 * second) :
    3 * maxI ≤ Spec.C02.pref64Lifetime maxI ∧
    Spec.C02.pref64Lifetime maxI < 3 * maxI + 8 * second := by
  rw [pref64Lifetime_eq_ceil8s maxI (below_cap h1800)]
  exact (ceil8s_spec (3 * maxI)).2

/-- for a whole number of seconds this is `ceil8 (3·seconds)` seconds -/
theorem pref64_lifetime_whole_seconds (s : Int) (h4 : 4 ≤ s) (h1800 : s ≤ 1800) :
    Spec.C02.pref64Lifetime (s * second) = Spec.C02.ceil8 (3 * s) * second := by
  rw [pref64Lifetime_eq_ceil8s _ (by unfold second; omega)]
  unfold Spec.C02.ceil8s Spec.C02.ceil8 second
  omega

/-- the value the Go constructor computes is the documented one -/
theorem pref64_model_formula (maxI : Dur) (h4 : 4 * second ≤ maxI) (h1800 : maxI ≤ 1800 * second) :
    Model.pref64Lifetime maxI = Spec.C02.ceil8s (3 * maxI) := by
  rw [Props.C02.pref64_lifetime_eq maxI (by unfold second at h4; omega),
    pref64Lifetime_eq_ceil8s maxI (below_cap h1800)]

/-- F-20: what the pinned source computed (whole seconds first) falls short of 3·max for a
    fractional interval: 16 s for `max_interval = 5.5 s`, where 24 s is called for. -/
example : Model.pref64LifetimeWholeSeconds (5500 * ms) = 16 * second ∧
    Spec.C02.pref64Lifetime (5500 * ms) = 24 * second ∧ Model.pref64LifetimeDur (5500 * ms) = 24 * second := by
  decide

/-! ### when generation fails -/

theorem concatOpts_none_iff (l : List (Option (List Opt))) : concatOpts l = none ↔ none ∈ l := by
  induction l with
  | nil => simp [concatOpts]
  | cons x xs ih => rw [concatOpts_cons, optAppend_eq_none, ih, List.mem_cons, eq_comm]

theorem wildOr_eq_none_iff {α β : Type} {w : Bool} {src : Option α} {f : α → β} {static : β} :
    (if w then src.map f else some static) = none ↔ (w = true ∧ src = none) := by
  cases w <;> simp

/-- the stanza uses the `::/64` wildcard (key absent/empty, or written out) -/
def wildP (p : RawPrefix) : Bool := (pfxOf wildPrefix p.pstr).getD wildPrefix == wildPrefix
/-- the stanza uses the `::/0` wildcard -/
def wildR (r : RawRoute) : Bool := (pfxOf wildRoute r.pstr).getD wildRoute == wildRoute
/-- the stanza uses the `::` wildcard (no servers at all, or `::` among them) -/
def wildD (d : RawRDNSS) : Bool := d.servers.isEmpty || (d.servers.map serverAddr).any (·.isUnspecified)

theorem prefixOpts_none_iff (sys : SysState) (p : RawPrefix) :
    prefixOpts sys p = none ↔ (wildP p = true ∧ sys.addrs = none) := wildOr_eq_none_iff

theorem routeOpts_none_iff (sys : SysState) (r : RawRoute) :
    routeOpts sys r = none ↔ (wildR r = true ∧ sys.routes = none) := wildOr_eq_none_iff

def sortedServers (d : RawRDNSS) : List IP := sortBy addrKey (Props.C02.staticServers d.servers)

/-- an `rdnss` stanza in the shape of the other two wildcard kinds: its source is the address dump
    followed by the choice of the best address -/
theorem rdnssOpts_eq (sys : SysState) (maxI : Dur) (d : RawRDNSS) :
    rdnssOpts sys maxI d =
      if wildD d then (sys.addrs.bind currentRDNSS).map fun ip =>
          [Opt.rdnss ((resolve d.lifetime (3 * maxI)).getD 0) (ip :: sortedServers d)]
      else some [Opt.rdnss ((resolve d.lifetime (3 * maxI)).getD 0) (sortedServers d)] := by
  unfold rdnssOpts wildD sortedServers Props.C02.staticServers
  cases sys.addrs <;> rfl

theorem rdnssOpts_none_iff (sys : SysState) (maxI : Dur) (d : RawRDNSS) :
    rdnssOpts sys maxI d = none ↔
      (wildD d = true ∧ (sys.addrs = none ∨ ∃ as, sys.addrs = some as ∧ currentRDNSS as = none)) := by
  rw [rdnssOpts_eq, wildOr_eq_none_iff, Option.bind_eq_none_iff]
  cases sys.addrs <;> simp

theorem sortedServers_length (d : RawRDNSS) :
    (wildD d = false → d.servers ≠ [] ∧ (sortedServers d).length = d.servers.length) ∧
    (wildD d = true → (sortedServers d).length ≤ d.servers.length - 1) := by
  unfold sortedServers Props.C02.staticServers
  rw [(sortBy_perm _ _).length_eq, ← List.length_map (f := serverAddr) (as := d.servers)]
  refine ⟨fun h => ?_, fun h => ?_⟩
  · simp only [wildD, Bool.or_eq_false_iff, List.isEmpty_eq_false_iff, List.any_eq_false] at h
    exact ⟨h.1, List.length_filter_eq_length_iff.mpr fun a ha => by simpa using h.2 a ha⟩
  · simp only [wildD, Bool.or_eq_true, List.isEmpty_iff, List.any_eq_true] at h
    rcases h with he | ⟨x, hx, hu⟩
    · rw [he]; exact Nat.le_refl 0
    · exact Nat.le_sub_one_of_lt (List.length_filter_lt_length_iff_exists.mpr ⟨x, hx, by simp [hu]⟩)

theorem expectedOptions_none_iff (i : RawInterface) (sys : SysState) (maxI : Dur) :
    expectedOptions i sys maxI = none ↔
      (∃ p ∈ i.prefixes, prefixOpts sys p = none) ∨ (∃ r ∈ i.routes, routeOpts sys r = none) ∨
      (∃ d ∈ i.rdnss, rdnssOpts sys maxI d = none) := by
  unfold expectedOptions
  rw [concatOpts_none_iff]
  simp only [List.mem_append, List.mem_map, List.mem_singleton, reduceCtorEq, and_false, exists_false, or_false,
    or_assoc]

/-- **Generation fails iff** a `::/64` prefix wildcard cannot list the interface's addresses,
    a `::/0` route wildcard cannot list the routes, or an RDNSS `::` wildcard cannot list the
    addresses or finds no usable one — and for no other reason. -/
theorem ra_fail_iff (i : RawInterface) (sys : SysState) (fw : Bool) :
    expectedRA i sys fw = none ↔
      ((∃ p ∈ i.prefixes, wildP p = true) ∧ sys.addrs = none) ∨
      ((∃ r ∈ i.routes, wildR r = true) ∧ sys.routes = none) ∨
      ((∃ d ∈ i.rdnss, wildD d = true) ∧
        (sys.addrs = none ∨ ∃ as, sys.addrs = some as ∧ currentRDNSS as = none)) := by
  unfold expectedRA
  simp only [Option.map_eq_none_iff, expectedOptions_none_iff, prefixOpts_none_iff, routeOpts_none_iff,
    rdnssOpts_none_iff, ← and_assoc, exists_and_right]

/-- the same for the model's build of an accepted stanza -/
theorem build_fail_iff (n : Nat) (i : RawInterface) (sys : SysState) (fw : Bool)
    (hdoc : docInterface i = true) (hadv : i.monitor = false) :
    routerAdvertisement (expInterface n i) sys fw = none ↔
      ((∃ p ∈ i.prefixes, wildP p = true) ∧ sys.addrs = none) ∨
      ((∃ r ∈ i.routes, wildR r = true) ∧ sys.routes = none) ∨
      ((∃ d ∈ i.rdnss, wildD d = true) ∧
        (sys.addrs = none ∨ ∃ as, sys.addrs = some as ∧ currentRDNSS as = none)) := by
  rw [build_eq n i sys fw hdoc hadv, Option.map_eq_none_iff, ra_fail_iff]

/-- for a documented stanza the prefix wildcard is written as the empty key or as `::/64` -/
theorem wildP_iff (p : RawPrefix) (h : docPrefix p = true) :
    wildP p = true ↔ (p.pstr = .empty ∨ p.pstr = .ok wildPrefix) :=
  let ⟨_, _, _, hq, _⟩ := Props.C02.docPrefix_parts p h
  Props.C02.isWild_iff hq

theorem wildR_iff (r : RawRoute) (h : docRoute r = true) :
    wildR r = true ↔ (r.pstr = .empty ∨ r.pstr = .ok wildRoute) :=
  let ⟨_, _, _, hq, _⟩ := Props.C02.docRoute_parts r h
  Props.C02.isWild_iff hq

/-! ### rebuilding -/

/- "Building the RA again yields an identical RA and never alters the configuration": in the model
   a build is a pure function of (configuration, system state, forwarding), so the clause is
   definitional there and no theorem is stated for it. What can go wrong lives in the Go code — a
   build that writes into the slices of the configuration or of a plugin (seeded changes C01, C01b,
   C14) — and is observed on the real code: every case builds the RA three times and compares
   (`unstable`), and compares the configuration before and after (`config-mutated`). -/

/-! ### the model meets the oracle -/

/-- The oracle accepts the model's output on every documented advertising stanza. -/
theorem holds_model (n : Nat) (i : RawInterface) (sys : SysState) (fw : Bool)
    (hdoc : docInterface i = true) (hadv : i.monitor = false) :
    (match routerAdvertisement (expInterface n i) sys fw with
     | none => Spec.C01.holds i sys fw "err" none
     | some r => Spec.C01.holds i sys fw "ok" (some r.1)) = (true, "") := by
  rw [build_eq n i sys fw hdoc hadv]
  unfold Spec.C01.holds
  cases expectedRA i sys fw <;> simp [hdoc]

/-- an undocumented stanza is rejected by the parser, which is what the oracle demands -/
theorem holds_model_rej (n : Nat) (i : RawInterface) (sys : SysState) (fw : Bool) (hwf : wfIface i = true)
    (hdoc : docInterface i = false) :
    parseInterface n i = none ∧ Spec.C01.holds i sys fw "rej" none = (true, "") := by
  refine ⟨by rw [parseInterface_eq n i hwf, hdoc]; rfl, ?_⟩
  unfold Spec.C01.holds
  simp only [hdoc, Bool.not_false, if_true]
  decide

/-! ### non-vacuity -/

/-- an advertising stanza using every stanza kind: both prefix forms (one deprecated, with a
    sub-second lifetime), both route forms, an RDNSS stanza with a static server and the `::`
    wildcard, DNSSL, MTU, source LLA (default), captive portal and PREF64 -/
def exIface : RawInterface :=
  { name := 1, advertise := true, maxInterval := .lit (60 * second), hopLimit := some 32,
    defaultLifetime := .auto,
    prefixes := [ {}, { pstr := .ok { addr := { val := 0x20010db8000000010000000000000000 }, bits := 64 },
                        autonomous := some false, valid := .lit (3600 * second + 1),
                        preferred := .lit (1800 * second), deprecated := true } ],
    routes := [ { pstr := .ok { addr := { val := 0x20010db8ffff00000000000000000000 }, bits := 48 }, preference := 3 }, {} ],
    rdnss := [ { servers := [ .ok { val := 0x20010db8000000010000000000000053 }, .ok { val := 0 } ] } ],
    dnssl := [ { lifetime := .lit (100 * second), names := [7, 8] } ],
    pref64 := [ .unset ],
    mtu := 1500, captivePortal := .ok 9 30 }

def exSys : SysState :=
  { addrs := some [ { addr := { addr := { val := 0xfd000000000000010000000000000001 }, bits := 64 }, stablePrivacy := true },
                    { addr := { addr := { val := 0xfe800000000000000000000000000001 }, bits := 64 } } ],
    routes := some [ { addr := { val := 0x20010db8aaaa00000000000000000000 }, bits := 48 } ],
    mac := some (6, 0x0242ac110002), epoch := 0, now := 600 * second + 5 }

/-- the RA `exIface` calls for in `exSys`, 600.000000005 s after the epoch -/
def exRA : RA :=
  { hopLimit := 32, routerLifetime := 180 * second,
    options := [
      .pi { val := 0xfd000000000000010000000000000000 } 64 true true (24 * hour) (4 * hour),
      .pi { val := 0x20010db8000000010000000000000000 } 64 true false 2999999999996 1199999999995,
      .ri { val := 0x20010db8ffff00000000000000000000 } 48 prefHigh (24 * hour),
      .ri { val := 0x20010db8aaaa00000000000000000000 } 48 prefMedium (24 * hour),
      .rdnss (180 * second) [{ val := 0xfd000000000000010000000000000001 }, { val := 0x20010db8000000010000000000000053 }],
      .dnssl (100 * second) [7, 8], .mtu 1500, .lla 6 0x0242ac110002, .captivePortal 9 30,
      .pref64 { addr := { val := 0x0064ff9b000000000000000000000000 }, bits := 96 } (184 * second) ] }

theorem ex_expected : expectedRA exIface exSys true = some exRA := by decide +kernel

/-- the parser accepts `exIface`, and the RA built from the parsed interface is `exRA` -/
example : docInterface exIface = true ∧ parseInterface 1 exIface = some (expInterface 1 exIface) ∧
    routerAdvertisement (expInterface 1 exIface) exSys true = some (exRA, false) ∧
    routerAdvertisement (expInterface 1 exIface) exSys false = some ({ exRA with routerLifetime := 0 }, true) := by
  decide +kernel

/-- generation fails when the address source fails (`::/64` and `::` wildcards), when the route
    source fails (`::/0` wildcard), and when no address is usable for the RDNSS wildcard -/
example :
    routerAdvertisement (expInterface 1 exIface) { exSys with addrs := none } true = none ∧
    routerAdvertisement (expInterface 1 exIface) { exSys with routes := none } true = none ∧
    routerAdvertisement (expInterface 1 exIface) { exSys with addrs := some [] } true = none ∧
    (routerAdvertisement (expInterface 1 { exIface with prefixes := [], rdnss := [] }) { exSys with addrs := none } true).isSome = true := by
  decide +kernel

end Corerad.Props.C01
