/-
  C16 — deprecated prefixes and routes count down to zero at a fixed deadline.
-/
import Corerad.Model.Lifetime
import Corerad.Spec.C16
import Corerad.Gen.Main

namespace Corerad.Props.C16

open Corerad Corerad.Model

/-- The epoch handed to the configuration parser is the daemon's start-up instant
    (`config.Parse(f, time.Now())` in main): it is never the zero time, so the plugins' "zero
    epoch" panic is unreachable from the daemon, and "daemon start + configured lifetime" is the
    deadline the theorems below are about. -/
theorem gen_epoch_is_start_time : Gen.Main.epochIsStartTime = true := by decide

/-- The advertised lifetime is the time remaining until `epoch + L`, clamped at zero. -/
theorem eq_clamped_remaining (epoch : Time) (L : Dur) (now : Time) :
    lifetimeAt epoch L now = max 0 (epoch + L - now) := by
  unfold lifetimeAt
  simp only
  split <;> omega

theorem nonneg (epoch : Time) (L : Dur) (now : Time) : 0 ≤ lifetimeAt epoch L now := by
  rw [eq_clamped_remaining]; omega

/-- Zero from the deadline onwards. -/
theorem zero_from_deadline (epoch : Time) (L : Dur) (now : Time) (h : epoch + L ≤ now) :
    lifetimeAt epoch L now = 0 := by
  rw [eq_clamped_remaining]; omega

/-- Strictly positive before the deadline (so "zero" means "deadline reached"). -/
theorem pos_before_deadline (epoch : Time) (L : Dur) (now : Time) (h : now < epoch + L) :
    0 < lifetimeAt epoch L now := by
  rw [eq_clamped_remaining]; omega

/-- Never increases from one RA to a later one. -/
theorem antitone (epoch : Time) (L : Dur) (t t' : Time) (h : t ≤ t') :
    lifetimeAt epoch L t' ≤ lifetimeAt epoch L t := by
  rw [eq_clamped_remaining, eq_clamped_remaining]; omega

theorem mono_lifetime (epoch : Time) (L L' : Dur) (now : Time) (h : L ≤ L') :
    lifetimeAt epoch L now ≤ lifetimeAt epoch L' now := by
  rw [eq_clamped_remaining, eq_clamped_remaining]; omega

/-- A prefix's preferred lifetime never exceeds its valid lifetime, at any instant. -/
theorem pref_le_valid (deprecated : Bool) (epoch : Time) (V P : Dur) (now : Time) (h : P ≤ V) :
    (prefixLifetimes deprecated epoch V P now).2 ≤ (prefixLifetimes deprecated epoch V P now).1 := by
  cases deprecated
  · exact h
  · exact mono_lifetime epoch P V now h

/-- Non-deprecated prefixes and routes always advertise the configured constants. -/
theorem not_deprecated_const (epoch : Time) (V P L : Dur) (now : Time) :
    prefixLifetimes false epoch V P now = (V, P) ∧ routeLifetime false epoch L now = L :=
  ⟨rfl, rfl⟩

theorem remaining_eq (epoch : Time) (L : Dur) (now : Time) :
    Spec.C16.remaining epoch L now = lifetimeAt epoch L now :=
  (eq_clamped_remaining epoch L now).symm

theorem before_or_zero (epoch : Time) (L : Dur) (now : Time) :
    now < epoch + L ∨ lifetimeAt epoch L now = 0 :=
  (Int.lt_or_le now (epoch + L)).imp_right (zero_from_deadline epoch L now)

theorem route_obs_ok (deprecated : Bool) (epoch : Time) (L : Dur) (now : Time) :
    Spec.C16.routeObsOk deprecated epoch L (now, routeLifetime deprecated epoch L now) = true := by
  cases deprecated
  · simp [Spec.C16.routeObsOk, routeLifetime]
  · simp [Spec.C16.routeObsOk, routeLifetime, remaining_eq, nonneg, before_or_zero]

theorem prefixObsOk_eq (epoch : Time) (V P : Dur) (t : Time) (v p : Dur) :
    Spec.C16.prefixObsOk true epoch V P (t, v, p) =
      (Spec.C16.routeObsOk true epoch V (t, v) && Spec.C16.routeObsOk true epoch P (t, p) && decide (p ≤ v)) := by
  simp only [Spec.C16.prefixObsOk, Spec.C16.routeObsOk, if_true]
  ac_rfl

theorem prefix_obs_ok (deprecated : Bool) (epoch : Time) (V P : Dur) (now : Time) (h : P ≤ V) :
    Spec.C16.prefixObsOk deprecated epoch V P
      (now, (prefixLifetimes deprecated epoch V P now).1, (prefixLifetimes deprecated epoch V P now).2) = true := by
  cases deprecated
  · simp [Spec.C16.prefixObsOk, prefixLifetimes]
  · rw [prefixObsOk_eq, Bool.and_eq_true, Bool.and_eq_true, decide_eq_true_eq]
    exact ⟨⟨route_obs_ok true epoch V now, route_obs_ok true epoch P now⟩, mono_lifetime epoch P V now h⟩

theorem antitone_model_route (epoch : Time) (L : Dur) (ts : List Time) :
    Spec.C16.antitoneR (ts.map fun t => (t, routeLifetime true epoch L t)) = true := by
  induction ts with
  | nil => rfl
  | cons t ts ih =>
    cases ts with
    | nil => rfl
    | cons t' ts' =>
      simp only [List.map, Spec.C16.antitoneR, Bool.and_eq_true, Bool.or_eq_true, decide_eq_true_eq]
      exact ⟨(Int.lt_or_le t' t).imp_right (antitone epoch L t t'), ih⟩

theorem antitone_model_prefix (epoch : Time) (V P : Dur) (ts : List Time) :
    Spec.C16.antitone (ts.map fun t => (t, (prefixLifetimes true epoch V P t).1, (prefixLifetimes true epoch V P t).2)) = true := by
  induction ts with
  | nil => rfl
  | cons t ts ih =>
    cases ts with
    | nil => rfl
    | cons t' ts' =>
      simp only [List.map, Spec.C16.antitone, Bool.and_eq_true, Bool.or_eq_true, decide_eq_true_eq]
      exact ⟨(Int.lt_or_le t' t).imp_right fun h => ⟨antitone epoch V t t' h, antitone epoch P t t' h⟩, ih⟩

/-- The model satisfies the whole-history oracle for every clock sequence (any length). -/
theorem holds_route (deprecated : Bool) (epoch : Time) (L : Dur) (ts : List Time) :
    Spec.C16.holdsRoute deprecated epoch L (ts.map fun t => (t, routeLifetime deprecated epoch L t)) = true := by
  unfold Spec.C16.holdsRoute
  simp only [Bool.and_eq_true, List.all_map, List.all_eq_true, Function.comp]
  refine ⟨fun t _ => route_obs_ok deprecated epoch L t, ?_⟩
  cases deprecated
  · rfl
  · exact antitone_model_route epoch L ts

theorem holds_prefix (deprecated : Bool) (epoch : Time) (V P : Dur) (h : P ≤ V) (ts : List Time) :
    Spec.C16.holdsPrefix deprecated epoch V P
      (ts.map fun t => (t, (prefixLifetimes deprecated epoch V P t).1, (prefixLifetimes deprecated epoch V P t).2)) = true := by
  unfold Spec.C16.holdsPrefix
  simp only [Bool.and_eq_true, List.all_map, List.all_eq_true, Function.comp]
  refine ⟨fun t _ => prefix_obs_ok deprecated epoch V P t h, ?_⟩
  cases deprecated
  · rfl
  · exact antitone_model_prefix epoch V P ts

/-! ### a clock that moves while one RA is built (span observations) -/

theorem span_point_route (deprecated : Bool) (epoch : Time) (L : Dur) (t : Time) (l : Dur) :
    Spec.C16.routeSpanOk deprecated epoch L (t, t, l) = Spec.C16.routeObsOk deprecated epoch L (t, l) := by
  cases deprecated
  · rfl
  · rw [Bool.eq_iff_iff]
    simp only [Spec.C16.routeSpanOk, Spec.C16.routeObsOk, if_true, Bool.and_eq_true, beq_iff_eq,
      decide_eq_true_eq, Bool.or_eq_true, remaining_eq]
    have := before_or_zero epoch L t
    omega

theorem prefixSpanOk_eq (epoch : Time) (V P : Dur) (lo hi : Time) (v p : Dur) :
    Spec.C16.prefixSpanOk true epoch V P (lo, hi, v, p) =
      (Spec.C16.routeSpanOk true epoch V (lo, hi, v) && Spec.C16.routeSpanOk true epoch P (lo, hi, p) &&
        decide (p ≤ v)) := by
  simp only [Spec.C16.prefixSpanOk, Spec.C16.routeSpanOk, if_true]
  ac_rfl

/-- For a single reading the span oracle is the point oracle. -/
theorem span_point_prefix (deprecated : Bool) (epoch : Time) (V P : Dur) (t : Time) (v p : Dur) :
    Spec.C16.prefixSpanOk deprecated epoch V P (t, t, v, p) = Spec.C16.prefixObsOk deprecated epoch V P (t, v, p) := by
  cases deprecated
  · rfl
  · rw [prefixSpanOk_eq, prefixObsOk_eq, span_point_route, span_point_route]

theorem route_span_accepts_any_read (epoch : Time) (L : Dur) (lo hi a : Time) (h1 : lo ≤ a) (h2 : a ≤ hi) :
    Spec.C16.routeSpanOk true epoch L (lo, hi, lifetimeAt epoch L a) = true := by
  simp [Spec.C16.routeSpanOk, remaining_eq, antitone epoch L a hi h2, antitone epoch L lo a h1, nonneg]

/-- The span oracle asks no more than the property: any implementation that derives the valid
    lifetime from a reading `a` and the preferred lifetime from a reading `b` no earlier than
    `a`, both within the span, is accepted (reading the clock twice is not by itself a
    violation). -/
theorem span_accepts_ordered_reads (epoch : Time) (V P : Dur) (lo hi a b : Time)
    (h : P ≤ V) (h1 : lo ≤ a) (h2 : a ≤ b) (h3 : b ≤ hi) :
    Spec.C16.prefixSpanOk true epoch V P (lo, hi, lifetimeAt epoch V a, lifetimeAt epoch P b) = true := by
  rw [prefixSpanOk_eq, Bool.and_eq_true, Bool.and_eq_true, decide_eq_true_eq]
  exact ⟨⟨route_span_accepts_any_read epoch V lo hi a h1 (Int.le_trans h2 h3),
    route_span_accepts_any_read epoch P lo hi b (Int.le_trans h1 h2) h3⟩,
    Int.le_trans (antitone epoch P a b h2) (mono_lifetime epoch P V a h)⟩

/-- …and it rejects the preferred lifetime taken from an earlier reading than the valid lifetime
    when that makes preferred exceed valid (5 s / 5 s, readings 0 and 400 ms). -/
example : Spec.C16.prefixSpanOk true 0 (5 * second) (5 * second)
    (0, 400 * ms, lifetimeAt 0 (5 * second) (400 * ms), lifetimeAt 0 (5 * second) 0) = false := by decide

/-- The model (one reading per RA, the first of the span) satisfies the span oracle for every
    sequence of spans of any length. -/
theorem holds_prefix_span (deprecated : Bool) (epoch : Time) (V P : Dur) (h : P ≤ V)
    (spans : List (Time × Time)) (hs : ∀ s ∈ spans, s.1 ≤ s.2) :
    Spec.C16.holdsPrefixSpan deprecated epoch V P
      (spans.map fun s => (s.1, s.2, (prefixLifetimes deprecated epoch V P s.1).1,
        (prefixLifetimes deprecated epoch V P s.1).2)) = true := by
  unfold Spec.C16.holdsPrefixSpan
  simp only [Bool.and_eq_true, List.all_map, List.all_eq_true, Function.comp]
  cases deprecated
  · exact ⟨fun s _ => by simp [Spec.C16.prefixSpanOk, prefixLifetimes], rfl⟩
  · refine ⟨fun s hmem => ?_, ?_⟩
    · exact span_accepts_ordered_reads epoch V P s.1 s.2 s.1 s.1 h (Int.le_refl _) (Int.le_refl _) (hs s hmem)
    · have := antitone_model_prefix epoch V P (spans.map fun s => s.1)
      rwa [List.map_map] at this ⊢

theorem holds_route_span (deprecated : Bool) (epoch : Time) (L : Dur)
    (spans : List (Time × Time)) (hs : ∀ s ∈ spans, s.1 ≤ s.2) :
    Spec.C16.holdsRouteSpan deprecated epoch L
      (spans.map fun s => (s.1, s.2, routeLifetime deprecated epoch L s.1)) = true := by
  unfold Spec.C16.holdsRouteSpan
  simp only [Bool.and_eq_true, List.all_map, List.all_eq_true, Function.comp]
  cases deprecated
  · exact ⟨fun s _ => by simp [Spec.C16.routeSpanOk, routeLifetime], rfl⟩
  · refine ⟨fun s hmem => ?_, ?_⟩
    · exact route_span_accepts_any_read epoch L s.1 s.2 s.1 (Int.le_refl _) (hs s hmem)
    · have := antitone_model_route epoch L (spans.map fun s => s.1)
      rwa [List.map_map] at this ⊢

/-- Non-vacuity: a 10 s/5 s deprecated prefix observed just before, at and after each deadline. -/
example : Spec.C16.holdsPrefix true 100 10 5
    ([99, 104, 105, 106, 109, 110, 111].map fun t =>
      (t, (prefixLifetimes true 100 10 5 t).1, (prefixLifetimes true 100 10 5 t).2)) = true ∧
    (prefixLifetimes true 100 10 5 104) = (6, 1) ∧ (prefixLifetimes true 100 10 5 105) = (5, 0) := by
  decide

end Corerad.Props.C16
