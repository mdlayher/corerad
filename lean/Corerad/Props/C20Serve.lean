/-
  C20 / C17 glue — the retry loop that keeps the debug HTTP server's listener up
  (`serve`, internal/corerad/server.go; model: Model/ServeRetry.lean).  For every script of
  listener outcomes and durations, every delay and every cancellation instant.
-/
import Corerad.Model.ServeRetry
import Corerad.Gen.Server

namespace Corerad.Props.C20Serve

open Corerad Corerad.Model.ServeRetry

theorem gen_attempts : Gen.Server.serveAttempts = 40 := by decide

/-! Induction along `loop` has eight cases, in the order of its definition: 1 no attempt left;
    2 cancelled; 3 cancelled during the wait; 4–7 the call ends the loop (nothing scripted,
    `closed`, `other`, `nilRet`); 8 a listener error, after which the loop goes on. -/

/-- `fn` is called at most `left` more times. -/
theorem loop_calls_le (delay : Dur) (left : Nat) (first : Bool) (now : Time) (c : Option Time)
    (s : List (FnOut × Dur)) : (loop delay left first now c s).1.length ≤ left := by
  fun_induction loop delay left first now c s
  case case8 ih => simpa using ih
  all_goals simp

/-- At most `attempts` calls of `fn`, whatever happens. -/
theorem calls_le (attempts : Nat) (delay : Dur) (c : Option Time) (s : List (FnOut × Dur)) :
    (serve attempts delay c s).1.length ≤ attempts :=
  loop_calls_le delay attempts true 0 c s

theorem attempt_not_cancelled {delay : Dur} {first : Bool} {now : Time} {c : Option Time}
    (h1 : ¬cancelled c now = true) (h2 : ¬(!first && cancelled c (now + delay)) = true) :
    cancelled c (if first = true then now else now + delay) = false := by
  cases first <;> simp_all

/-- No call of `fn` is made at or after the cancellation. -/
theorem loop_no_call_after_cancel (delay : Dur) (left : Nat) (first : Bool) (now : Time)
    (c : Option Time) (s : List (FnOut × Dur)) :
    ∀ t ∈ (loop delay left first now c s).1, cancelled c t = false := by
  fun_induction loop delay left first now c s
  case case1 | case2 | case3 => simp
  case case8 h1 h2 _ _ _ _ ih => exact List.forall_mem_cons.mpr ⟨attempt_not_cancelled h1 h2, ih⟩
  all_goals simpa using attempt_not_cancelled ‹_› ‹_›

-- `hd` and `hs` are not needed (see `loop_no_call_after_cancel`)
set_option linter.unusedVariables false in
theorem no_call_after_cancel (attempts : Nat) (delay : Dur) (hd : 0 ≤ delay) (cAt : Time)
    (s : List (FnOut × Dur)) (hs : ∀ p ∈ s, 0 ≤ p.2) :
    ∀ t ∈ (serve attempts delay (some cAt) s).1, t < cAt := fun t ht => by
  simpa [cancelled] using loop_no_call_after_cancel delay attempts true 0 (some cAt) s t ht

/-- Cancelled before it starts: nothing is called, nil is returned. -/
theorem cancelled_at_start (attempts : Nat) (delay : Dur) (cAt : Time) (h : cAt ≤ 0)
    (s : List (FnOut × Dur)) : serve (attempts + 1) delay (some cAt) s = ([], .nil, 0) := by
  simp [serve, loop, cancelled, h]

/-- Without cancellation: as long as the listener keeps failing with a network error the loop
    goes on, and it gives up exactly after `left` such failures. -/
theorem loop_all_opErr (delay : Dur) (left : Nat) (first : Bool) (now : Time) (c : Option Time)
    (s : List (FnOut × Dur)) (hc : c = none) (hl : left ≤ s.length) (ha : ∀ p ∈ s.take left, p.1 = .opErr) :
    (loop delay left first now c s).2.1 = .timeout ∧ (loop delay left first now c s).1.length = left := by
  fun_induction loop delay left first now c s
  case case1 => simp
  case case2 h | case3 h => simp [hc, cancelled] at h
  case case4 => simp at hl
  case case5 | case6 | case7 => simp [List.take_succ_cons] at ha
  case case8 ih =>
    simpa using ih hc (by simpa using hl) fun p hp => ha p (by simp [List.take_succ_cons, hp])

theorem gives_up_after_attempts (attempts : Nat) (delay : Dur) (s : List (FnOut × Dur))
    (hl : attempts ≤ s.length) (ha : ∀ p ∈ s.take attempts, p.1 = .opErr) :
    (serve attempts delay none s).2.1 = .timeout ∧ (serve attempts delay none s).1.length = attempts :=
  loop_all_opErr delay attempts true 0 none s rfl hl ha

/-- Non-vacuity: two listener errors (the second after the server ran for 5 s), then the
    expected shutdown: calls at 0, 3 s and 11 s, nil returned. -/
example : serve 40 (3 * second) none [(.opErr, 0), (.opErr, 5 * second), (.closed, 7 * second)] =
    ([0, 3 * second, 11 * second], .nil, 18 * second) := by decide

/-- cancellation during the second wait -/
example : serve 40 (3 * second) (some (4 * second)) [(.opErr, 0), (.opErr, 0), (.closed, 0)] =
    ([0, 3 * second], .nil, 4 * second) := by decide

end Corerad.Props.C20Serve
