/-
  C06 — multicast RAs are rate limited to one per MIN_DELAY_BETWEEN_RAS, and every trigger is
  still served within MIN_DELAY_BETWEEN_RAS.  Theorems over every arrival history of any
  length (sorted by arrival time, starting no earlier than the initial RA), any interleaving
  of unicast solicitations and any jitter draws.
-/
import Corerad.Lemmas.Scheduler
import Corerad.Spec.C06

namespace Corerad.Props.C06

open Corerad Corerad.Model

/-- RFC 4861 §10 constants as found in the source; the Advertiser's field defaults to the constant -/
theorem gen_constants :
    Gen.Advertise.minDelayBetweenRAs = 3 * second ∧ Gen.Advertise.fieldMinDelayIsConst = true := by
  decide

/-- arrival times are non-decreasing and not before `lo` -/
def SortedFrom : Time → List (Time × Req) → Prop
  | _, [] => True
  | lo, (t, _) :: rest => lo ≤ t ∧ SortedFrom t rest

theorem spaced_cons (gap : Dur) (a b : Time) (r : List Time) :
    Spec.C06.spaced gap (a :: b :: r) = true ↔ a + gap ≤ b ∧ Spec.C06.spaced gap (b :: r) = true := by
  simp [Spec.C06.spaced]

/-- **Spacing**: the multicast transmissions scheduled after a multicast transmission at
    `s.next` are, in order, at least `minDelay` apart from it and from each other — for every
    history, sorted or not. -/
theorem spacing_from (minDelay : Dur) :
    ∀ (reqs : List (Time × Req)) (s : SchedState) (draws : List Int),
      Spec.C06.spaced minDelay (s.next :: mcSends (schedule minDelay false s reqs draws)) = true
  | [], s, draws => by simp [Spec.C06.spaced]
  | (t, .uc h) :: rest, s, draws => by
    rw [mcSends_schedule_uc]; exact spacing_from minDelay rest s draws.tail
  | (t, .mc) :: rest, s, draws => by
    rw [mcSends_schedule_mc]
    simp only [Bool.false_eq_true, false_or]
    split
    · exact spacing_from minDelay rest s draws
    · exact (spaced_cons ..).mpr ⟨by omega, spacing_from minDelay rest ⟨max t (s.next + minDelay)⟩ draws⟩

/-- From the initial advertisement (at `start`) on, all-nodes RAs are never scheduled less than
    3 s apart, whatever mixture of triggers arrives. -/
theorem multicast_spacing (start : Time) (reqs : List (Time × Req)) (draws : List Int) :
    Spec.C06.spaced (3 * second)
      (start :: mcSends (schedule Gen.Advertise.minDelayBetweenRAs false { next := start } reqs draws)) = true := by
  rw [gen_constants.1]
  exact spacing_from (3 * second) reqs { next := start } draws

/-- the invariant that makes coalescing safe: the latest scheduled multicast RA is due no later
    than `minDelay` after the current instant -/
theorem served_from (minDelay : Dur) (hm : 0 ≤ minDelay) :
    ∀ (reqs : List (Time × Req)) (lo : Time) (s : SchedState) (draws : List Int),
      SortedFrom lo reqs → s.next ≤ lo + minDelay →
      ∀ t, (t, Req.mc) ∈ reqs →
        ∃ x ∈ s.next :: mcSends (schedule minDelay false s reqs draws), t ≤ x ∧ x ≤ t + minDelay
  | [], _, _, _, _, _, t, h => by simp at h
  | (t', .uc h) :: rest, lo, s, draws, hs, hn, t, hmem => by
    rw [mcSends_schedule_uc]
    exact served_from minDelay hm rest t' s draws.tail hs.2 (by have := hs.1; omega) t (by simpa using hmem)
  | (t', .mc) :: rest, lo, s, draws, hs, hn, t, hmem => by
    have hlo := hs.1
    rw [mcSends_schedule_mc]
    simp only [Bool.false_eq_true, false_or]
    split
    · -- a pending transmission at `s.next` serves this request
      rcases List.mem_cons.mp hmem with h | h
      · cases h; exact ⟨s.next, List.mem_cons_self, by omega, by omega⟩
      · exact served_from minDelay hm rest t' s draws hs.2 (by omega) t h
    · have ih := served_from minDelay hm rest t' ⟨max t' (s.next + minDelay)⟩ draws hs.2
        (by simp only; omega) t
      rcases List.mem_cons.mp hmem with h | h
      · cases h; exact ⟨_, List.mem_cons_of_mem _ List.mem_cons_self, by omega, by omega⟩
      · obtain ⟨x, hx, hb⟩ := ih h
        exact ⟨x, List.mem_cons_of_mem _ hx, hb⟩

/-- **Every trigger is still satisfied**: a multicast trigger arriving at `t` is followed by an
    all-nodes RA due within `[t, t + 3 s]` (the initial RA can be that RA only for a trigger at
    `start` itself: triggers arrive at or after `start`). -/
theorem multicast_served (start : Time) (reqs : List (Time × Req)) (draws : List Int)
    (hs : SortedFrom start reqs) (t : Time) (ht : (t, Req.mc) ∈ reqs) :
    ∃ x ∈ start :: mcSends (schedule Gen.Advertise.minDelayBetweenRAs false { next := start } reqs draws),
      t ≤ x ∧ x ≤ t + 3 * second := by
  rw [gen_constants.1]
  exact served_from (3 * second) (by decide) reqs start { next := start } draws hs
    (Int.le_add_of_nonneg_right (by decide)) t ht

/-- In unicast-only mode no all-nodes RA is ever scheduled. -/
theorem unicast_only_no_multicast (minDelay : Dur) :
    ∀ (reqs : List (Time × Req)) (s : SchedState) (draws : List Int),
      mcSends (schedule minDelay true s reqs draws) = [] :=
  mcSends_schedule_unicastOnly minDelay

/-- Non-vacuity, and the repaired defect F-3: triggers at 1.0 s, 1.1 s and 4.5 s after the
    initial RA are served by RAs at 3 s and 6 s (the unrepaired code sent at 4.0, 4.1, 4.5 s). -/
example :
    mcSends (schedule (3 * second) false { next := 0 }
      [(1 * second, .mc), (1100 * ms, .mc), (1200 * ms, .uc 7), (4500 * ms, .mc)] [250 * ms])
      = [3 * second, 6 * second] ∧
    SortedFrom 0 [(1 * second, Req.mc), (1100 * ms, .mc), (1200 * ms, .uc 7), (4500 * ms, .mc)] := by
  refine ⟨by decide, ?_⟩
  simp only [SortedFrom]
  decide

end Corerad.Props.C06
