/-
  C11 / C04 glue — the Linux sysctl files behind `system.State` (Model/Sysctl.lean): what the
  dialer's "read, disable, restore" bracket does to the kernel's setting when it goes through
  the real `systemState`.
-/
import Corerad.Model.Sysctl

namespace Corerad.Props.C11Sysctl

open Corerad.Model.Sysctl

/-- Reading back what was written yields the written value. -/
theorem read_after_write (d : Dir) (v : Bool) :
    (apply (apply d (.setAutoconf v)).1 .getAutoconf).2 = some v := by
  cases v <;> rfl

/-- Writing autoconf never changes what forwarding reads (different files). -/
theorem write_keeps_forwarding (d : Dir) (v : Bool) :
    (apply (apply d (.setAutoconf v)).1 .getForwarding).2 = (apply d .getForwarding).2 := rfl

/-- The dialer's bracket over the real sysctl: read the previous value, disable, … restore — the
    file ends with the value it had, for either previous value, and forwarding is untouched. -/
theorem bracket_restores (fwd : Option Nat) (prev : Bool) :
    let d0 : Dir := (some (writeCode prev), fwd)
    let r := (apply d0 .getAutoconf).2
    let d1 := (apply d0 (.setAutoconf false)).1
    let d2 := (apply d1 (.setAutoconf prev)).1
    r = some prev ∧ (apply d1 .getAutoconf).2 = some false ∧ d2 = d0 := by
  cases prev <;> exact ⟨rfl, rfl, rfl⟩

theorem readBool_some (n : Nat) :
    readBool (some n) = if n = 2 then none else some (n == 1 || n == 3) := by
  by_cases h : n = 2 <;> simp [readBool, isInt, nonZero, h]

/-- Every non-zero integer reads as true (C04: an interface whose `forwarding` is 2 forwards);
    an unreadable file or a content that is no integer is an error, never "false". -/
theorem read_true_iff (c : Option Nat) : readBool c = some true ↔ c = some 1 ∨ c = some 3 := by
  cases c with
  | none => simp [readBool]
  | some n =>
    rw [readBool_some]
    by_cases h : n = 2 <;> simp [h]

theorem read_false_iff (c : Option Nat) : readBool c = some false ↔ ∃ n, c = some n ∧ n ≠ 1 ∧ n ≠ 2 ∧ n ≠ 3 := by
  cases c with
  | none => simp [readBool]
  | some n =>
    rw [readBool_some]
    by_cases h : n = 2 <;> simp [h]

theorem read_error_iff (c : Option Nat) : readBool c = none ↔ c = none ∨ c = some 2 := by
  cases c with
  | none => simp [readBool]
  | some n =>
    rw [readBool_some]
    by_cases h : n = 2 <;> simp [h]

end Corerad.Props.C11Sysctl
