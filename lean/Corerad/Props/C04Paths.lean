/-
  C04, history form, stated of the model the check executes (Model/Paths.lean: several
  interfaces, forwarding flips and RA generations on the seven paths in any order).
-/
import Corerad.Model.Paths

namespace Corerad.Props.C04Paths

open Corerad Corerad.Model.Paths

/-- the forwarding state of every interface after a history prefix (a fold, defined
    independently of `runOps`) -/
def fwAfter (init : Nat → Bool) (pre : List Op) : Nat → Bool :=
  pre.foldl (fun fw op => match op with | .setFw i b => setAt fw i b | .gen _ _ => fw) init

def gens : List Op → Nat
  | [] => 0
  | .setFw _ _ :: ops => gens ops
  | .gen _ _ :: ops => gens ops + 1

/-- Every generation of every history, on whatever path and interface, is built from the
    forwarding value of ITS interface in force at THAT moment. -/
theorem runOps_tracks (cfg : Nat → Dur) (init : Nat → Bool) (pre post : List Op) (i : Nat) (p : Path) :
    (runOps cfg init (pre ++ Op.gen i p :: post))[gens pre]? =
      some (generate cfg (fwAfter init pre i) i p) := by
  induction pre generalizing init with
  | nil => rfl
  | cons op pre ih =>
    cases op with
    | setFw j b => simp only [List.cons_append, runOps, gens, fwAfter, List.foldl_cons]; exact ih _
    | gen j q =>
      simp only [List.cons_append, runOps, gens, fwAfter, List.foldl_cons, List.getElem?_cons_succ]
      exact ih init

theorem generate_spec (cfg : Nat → Dur) (fw : Bool) (i : Nat) (p : Path) (h0 : 0 ≤ cfg i) :
    (generate cfg fw i p).lifetime = (if fw then cfgLifetime cfg i p else 0) ∧
    ((generate cfg fw i p).misconfig = true ↔ (fw = false ∧ 0 < cfgLifetime cfg i p)) ∧
    (generate cfg fw i p).iface = i ∧ (generate cfg fw i p).path = p := by
  have hl : 0 ≤ cfgLifetime cfg i p := by unfold cfgLifetime; split <;> omega
  unfold generate
  generalize cfgLifetime cfg i p = lt at hl
  cases fw
  · by_cases hp : 0 < lt
    · simp [hp]
    · simp [hp]; omega
  · simp

/-- **Never a default router while not forwarding**: in every history over any number of
    interfaces, a generation that happens while its interface is not forwarding has router
    lifetime 0 — on every one of the seven paths. -/
theorem not_forwarding_lifetime_zero (cfg : Nat → Dur) (init : Nat → Bool) (pre post : List Op)
    (i : Nat) (p : Path) (h0 : 0 ≤ cfg i) (hf : fwAfter init pre i = false) :
    ∃ o, (runOps cfg init (pre ++ Op.gen i p :: post))[gens pre]? = some o ∧ o.lifetime = 0 ∧
      (o.misconfig = true ↔ 0 < cfgLifetime cfg i p) := by
  refine ⟨_, runOps_tracks cfg init pre post i p, ?_, ?_⟩
  · rw [(generate_spec cfg _ i p h0).1, hf]; rfl
  · rw [(generate_spec cfg _ i p h0).2.1, hf]; simp

theorem fwAfter_congr (i : Nat) (pre : List Op) (f g : Nat → Bool) (h : f i = g i) :
    fwAfter f pre i =
      fwAfter g (pre.filter fun op => match op with | .setFw j _ => j == i | .gen _ _ => true) i := by
  induction pre generalizing f g with
  | nil => exact h
  | cons op pre ih =>
    cases op with
    | gen j q => exact ih f g h
    | setFw j b =>
      by_cases hj : j = i
      · subst hj
        simp only [List.filter_cons, beq_self_eq_true, if_true]
        exact ih _ _ (by simp [setAt])
      · simp only [List.filter_cons, beq_iff_eq, hj, if_false]
        exact ih _ _ (by simp [setAt, Ne.symm hj, h])

/-- Forwarding flips of OTHER interfaces never change what an interface advertises. -/
theorem other_interfaces_irrelevant (init : Nat → Bool) (pre : List Op) (i : Nat) :
    fwAfter init pre i =
      fwAfter init (pre.filter fun op => match op with | .setFw j _ => j == i | .gen _ _ => true) i :=
  fwAfter_congr i pre init init rfl

/-- Non-vacuity: two interfaces, interface 1 stops forwarding, a scrape of interface 1 and a
    periodic RA of interface 0 follow, then the final RA of interface 1. -/
example :
    runOps (fun _ => 1800 * second) (fun _ => true)
      [.gen 0 .initial, .setFw 1 false, .gen 1 .scrape, .gen 0 .periodic, .gen 1 .final] =
    [⟨0, .initial, 1800 * second, false⟩, ⟨1, .scrape, 0, true⟩, ⟨0, .periodic, 1800 * second, false⟩,
     ⟨1, .final, 0, false⟩] := by decide

end Corerad.Props.C04Paths
