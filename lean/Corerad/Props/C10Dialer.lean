/-
  C10, dialer part (model 1 of 3) — recovery policy of `Dialer.Dial` / `Dialer.init`:
  classification of the cause, exact back-off, at most 50 dial attempts per
  re-initialisation, prompt clean return on cancellation.

  Every trace theorem quantifies over every configuration (mode, initial autoconf value,
  cancellation instant), both ways `dial()` may treat its error path, and every script — any
  number of `DialFunc` calls with any outcome in {ok, link-not-ready, syscall, permission,
  other}, any State fault, any task outcome in {nil, link change, syscall, permission, retries
  exhausted, other, cancelled (nil), cancelled (context.Canceled)} — and is proved by induction
  on the script (`Lemmas.Dialer.goRun_induct` with the invariant `Inv10` of the policy
  automaton at the loop heads of `Dial`/`init`).  The model is Model/Dialer.lean; the automaton
  the check evaluates on the implementation's observed trace is Spec/C10Dialer.lean.

  Models 2 (`receiveRetry`) and 3 (teardown LTS of `advertise()`/`monitor()`) of C10 live in
  other files.

  Residue (not a theorem): a cancellation at the very instant a wait ends, or before a
  zero-length wait (the first re-dial of a re-initialisation): Go's `select` then chooses among
  the ready cases at random; at most one more `DialFunc` call results.
-/
import Corerad.Lemmas.Dialer

namespace Corerad.Props.C10Dialer

open Corerad Corerad.Model.Dialer Corerad.Spec.C10Dialer

/-! ### regenerated facts: the literals of the statements are the source's -/

/-- `const attempts = 50`, `delay = time.Duration(i+1) * 250 * time.Millisecond`,
    `maxDelay = 3 * time.Second` in `init` -/
theorem gen_constants :
    Gen.Dialer.attempts = 50 ∧ Gen.Dialer.step = 250 * ms ∧ Gen.Dialer.maxDelay = 3 * second :=
  ⟨rfl, rfl, rfl⟩

/-- the duration `init` passes to `time.After` before the `i`-th re-dial is the documented
    `min (i · 250 ms) 3 s`, for every `i` -/
theorem delay_closed_form (i : Nat) : delay i = min ((i : Int) * (250 * ms)) (3 * second) := by
  rw [delay_eq]; rfl

/-- …that is 0, 250 ms, 500 ms, … 2.75 s, then 3 s for ever -/
theorem delay_table :
    (List.range 15).map delay =
      [0, 250000000, 500000000, 750000000, 1000000000, 1250000000, 1500000000, 1750000000,
       2000000000, 2250000000, 2500000000, 2750000000, 3000000000, 3000000000, 3000000000] ∧
    ∀ i, 12 ≤ i → delay i = 3 * second := by
  refine ⟨by decide, ?_⟩
  intro i hi
  rw [delay_eq]
  unfold backoff second
  omega

/-! ### the four verdicts on every run -/

private theorem policy_run (leak : Bool) (cfg : Cfg) (s : List Attempt) :
    Fin10 (run (dialRunWith leak cfg s).evs) (dialRunWith leak cfg s).ret (dialRunWith leak cfg s).ac := by
  have := goRun_induct leak cfg Spec.C10Dialer.step (Inv10 cfg) Fin10 s
    (fun _ _ _ _ _ h => step10 h)
    .first { k := 0, now := 0, ac := cfg.ac0 } {} (by simp [Inv10])
  simpa [run, dialRunWith] using this

/-- In every run: the error of the very first `DialFunc` call and every error the task returns
    is classified — link-not-ready, link-change and non-permission system-call errors are
    followed by re-dialling; any other error ends the run with exactly that error reported, no
    further `DialFunc` call and no waiting; a task that returns nil (or was cancelled) ends the
    run with nil; the time-out error and nil-by-cancellation are the only other returns. -/
theorem classification (cfg : Cfg) (s : List Attempt) :
    (run (dialRun cfg s).evs).okClass = true :=
  (policy_run _ cfg s).2.1

/-- In every run the `i`-th `DialFunc` call of every re-initialisation is preceded by exactly
    `min (i · 250 ms) 3 s` of waiting (0, 250 ms, 500 ms, …, 3 s, 3 s, …), nothing else ever
    waits, no wait is negative, a wait cut short by cancellation is strictly shorter, and
    `Dial` returns without a pending wait. -/
theorem backoff_exact (cfg : Cfg) (s : List Attempt) :
    (run (dialRun cfg s).evs).okBackoff = true :=
  (policy_run _ cfg s).2.2.1

/-- In every run a re-initialisation makes at most 50 `DialFunc` calls, and the time-out error
    is returned exactly after the 50th failed one. -/
theorem attempts_le_50 (cfg : Cfg) (s : List Attempt) :
    (run (dialRun cfg s).evs).okAttempts = true :=
  (policy_run _ cfg s).2.2.2.1

/-- In every run, once the context is cancelled — during any back-off wait, or while the task
    runs — there is no further `DialFunc` call and no further wait, and `Dial` returns nil (or
    the clean-up error of the connection it still held). -/
theorem cancel_prompt (cfg : Cfg) (s : List Attempt) :
    (run (dialRun cfg s).evs).okCancel = true :=
  (policy_run _ cfg s).2.2.2.2

/-- The model's trace satisfies, for every configuration and script, the oracle that the check
    evaluates on the implementation's observed trace. -/
theorem holds_model (cfg : Cfg) (s : List Attempt) : holds (dialRun cfg s).evs = true := by
  obtain ⟨h0, h1, h2, h3, h4⟩ := policy_run Gen.Dialer.dialLeaksConnOnAutoconfError cfg s
  unfold holds dialRun
  simp [h0, h1, h2, h3, h4]

/-! ### the same, read off the model directly -/

/-- A cancellation during a wait: the wait ends at the instant of the cancellation, the very
    next event is the return of nil — whatever the rest of the script holds. -/
theorem cancel_in_wait (leak : Bool) (cfg : Cfg) (i : Nat) (st : St) (a : Attempt)
    (as : List Attempt) (T : Nat) (hT : cfg.cancelAt = some T) (h : (T : Int) < st.now + delay i) :
    goRun leak cfg (.retry i) st (a :: as) =
      { evs := [.wait (T - st.now), .ctxDone, .ret .nil], ret := .nil, ac := st.ac } := by
  have hc : cancelledBefore cfg (st.now + delay i) = true := by
    simp [cancelledBefore, hT, h]
  rw [goRun_cons_inl as (e := .nil) (by simp [stepAttempt, hc])]
  simp [finish, stepAttempt, hc, cancelInstant, hT]

/-- An unrecoverable first dial error (permission, or anything that is not link-not-ready or a
    system-call error) is returned at once: one `DialFunc` call, no wait. -/
theorem first_dial_fatal (leak : Bool) (cfg : Cfg) (o : DialOut) (as : List Attempt)
    (h : o = .permission ∨ o = .other) :
    dialRunWith leak cfg ({ pre := o } :: as) =
      { evs := [.dial 0, .dialRet 0 o, .ret (.dial 0)], ret := .dial 0, ac := cfg.ac0 } := by
  rcases h with rfl | rfl <;>
    simp [dialRunWith, goRun, stepAttempt, afterDial, dialFn, DialOut.next, finish]

/-- After a recoverable cause, 50 failed re-dials — of whatever class, permission included —
    end the run with the time-out error; the run has made 51 `DialFunc` calls in all and waited
    0 + 0.25 + … + 2.75 + 38 · 3 = 130.5 s. -/
theorem fifty_failures_time_out :
    let r := dialRunWith false { adv := false }
      ({ pre := .syscall } :: List.replicate 50 { pre := .permission })
    r.ret = .timeout ∧ dialCalls r.evs = 51 ∧
    (r.evs.filterMap fun e => match e with | .wait d => some d | _ => none).sum = 130500000000 := by
  decide +kernel

/-! ### non-vacuity -/

/-- The oracle accepts the model's trace of a run with a recoverable dial error, a re-dial
    that fails with a permission error (not a cause: retried), a link change and a fatal task
    error; and rejects that trace when the fatal error is followed by a re-dial, when the
    second back-off is 0 instead of 250 ms, and when a dial follows the cancellation. -/
example :
    let r := dialRunWith false { adv := false }
      [{ pre := .linkNotReady }, { pre := .permission }, { task := .linkChange }, { task := .permission }]
    r.evs =
      [.dial 0, .dialRet 0 .linkNotReady,
       .wait 0, .dial 1, .dialRet 1 .permission,
       .wait 250000000, .dial 2, .open 2, .dialRet 2 .ok, .fnStart 2, .fnReturn 2 .linkChange,
       .leave 2, .cleanup 2,
       .wait 0, .dial 3, .open 3, .dialRet 3 .ok, .fnStart 3, .fnReturn 3 .permission,
       .leave 3, .cleanup 3, .ret (.task 3)] ∧
    holds r.evs = true := by
  decide +kernel

example :
    holds [.dial 0, .dialRet 0 .ok, .fnStart 0, .fnReturn 0 .permission,
           .dial 1, .dialRet 1 .ok, .fnStart 1, .fnReturn 1 .nil, .ret .nil] = false ∧
    -- a permission error on the first dial retried
    holds [.dial 0, .dialRet 0 .permission, .dial 1, .dialRet 1 .ok, .fnStart 1, .fnReturn 1 .nil,
           .ret .nil] = false ∧
    -- a recoverable error reported instead of retried
    holds [.dial 0, .dialRet 0 .ok, .fnStart 0, .fnReturn 0 .linkChange, .ret (.task 0)] = false ∧
    -- the second re-dial without its 250 ms
    holds [.dial 0, .dialRet 0 .syscall, .dial 1, .dialRet 1 .syscall, .dial 2, .dialRet 2 .ok,
           .fnStart 2, .fnReturn 2 .nil, .ret .nil] = false ∧
    -- back-off without the 3 s cap: 3.25 s before the 13th re-dial
    (run ([.dial 0, .dialRet 0 .syscall] ++
          ((List.range 14).flatMap fun i =>
            [.wait ((i : Int) * 250000000), .dial (i + 1), .dialRet (i + 1) .syscall]))).okBackoff
      = false ∧
    -- a dial after the cancellation
    holds [.dial 0, .dialRet 0 .syscall, .dial 1, .dialRet 1 .syscall, .wait 100, .ctxDone,
           .dial 2, .dialRet 2 .ok, .fnStart 2, .fnReturn 2 .nil, .ret .nil] = false ∧
    -- a non-nil return after the cancellation
    holds [.dial 0, .dialRet 0 .syscall, .dial 1, .dialRet 1 .syscall, .wait 100, .ctxDone,
           .ret .timeout] = false := by
  decide +kernel

set_option maxRecDepth 20000 in
/-- 51 `DialFunc` calls in one re-initialisation are rejected (and 50 followed by the time-out
    error accepted). -/
example :
    let retries (n : Nat) : List Ev :=
      (List.range n).flatMap fun i =>
        [.wait (backoff i), .dial (i + 1), .dialRet (i + 1) .linkNotReady]
    holds ([.dial 0, .dialRet 0 .syscall] ++ retries 50 ++ [.ret .timeout]) = true ∧
    (run ([.dial 0, .dialRet 0 .syscall] ++ retries 51 ++ [.ret .timeout])).okAttempts = false ∧
    (run ([.dial 0, .dialRet 0 .syscall] ++ retries 49 ++ [.ret .timeout])).okAttempts = false := by
  decide +kernel

end Corerad.Props.C10Dialer
