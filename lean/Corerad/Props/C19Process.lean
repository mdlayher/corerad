/-
  C19, OS-glue part — `process` / `operStateChange` of internal/netstate/watcher_linux.go, and
  their composition with the verified `notify`.

  All list theorems quantify over every batch of messages (any length, any mix of message
  types, nil attributes, any `uint8` state and beyond, any interface names) and are proved by
  induction on the batch.  Model: Model/Process.lean; oracle evaluated on the implementation's
  change set: Spec/C19Process.lean; `notify` and its theorems: Model/Watcher.lean, Props/C19.lean.
-/
import Corerad.Spec.C19Process
import Corerad.Lemmas.Watcher
import Corerad.Lemmas.ListUtil

namespace Corerad.Props.C19Process

open Corerad Corerad.Model Corerad.Model.Process Corerad.Spec.C19Process

/-! ### the state table -/

/-- The `switch` of `operStateChange` is the documented table, for every numeric state (the
    regenerated bit values of change.go on the left, RFC literals on the right). -/
theorem mapping_eq_table (s : Nat) : operStateChange s = changeOf s := by
  match s with
  | 0 | 1 | 2 | 3 | 4 | 5 | 6 => rfl
  | n + 7 => rfl

theorem operStateChange_mem {s c : Nat} (h : operStateChange s = some c) : (s, c) ∈ stateTable := by
  unfold operStateChange at h
  split at h <;> cases h <;> decide

/-- Every known operational state (0 … 6) has a Change, and nothing else has. -/
theorem mapping_total_on_known :
    (∀ s : Fin 7, (operStateChange s.val).isSome = true) ∧
    (∀ s, 7 ≤ s → operStateChange s = none) := by
  refine ⟨by decide, ?_⟩
  intro s hs
  obtain ⟨n, rfl⟩ : ∃ n, s = n + 7 := ⟨s - 7, by omega⟩
  rfl

/-- Up ↔ LinkUp, Down ↔ LinkDown, Testing, Unknown, Dormant, NotPresent, LowerLayerDown: the
    table by name, and its image is exactly the seven `Link*` bits. -/
theorem mapping_table :
    operStateChange 6 = some 1 ∧ operStateChange 2 = some 2 ∧ operStateChange 4 = some 4 ∧
    operStateChange 0 = some 8 ∧ operStateChange 5 = some 16 ∧ operStateChange 1 = some 32 ∧
    operStateChange 3 = some 64 ∧
    ∀ k : Fin 7, ∃ s : Fin 7, operStateChange s.val = some (2 ^ k.val) := by
  decide

/-- Two states with the same Change are the same state. -/
theorem mapping_injective (a b c : Nat) (ha : operStateChange a = some c)
    (hb : operStateChange b = some c) : a = b :=
  (by decide : ∀ p ∈ stateTable, ∀ q ∈ stateTable, p.2 = q.2 → p.1 = q.1)
    _ (operStateChange_mem ha) _ (operStateChange_mem hb) rfl

/-- A recognised state never maps to the zero Change (so every delivered value is a real bit). -/
theorem mapping_nonzero (s c : Nat) (h : operStateChange s = some c) : c ≠ 0 ∧ c &&& 127 = c :=
  (by decide : ∀ p ∈ stateTable, p.2 ≠ 0 ∧ p.2 &&& 127 = p.2) _ (operStateChange_mem h)

/-! ### one message -/

theorem contrib_eq (m : Msg) :
    contrib m = if counts m = true then (changeOf m.oper).map (m.iface, ·) else none := by
  unfold contrib counts
  rw [← mapping_eq_table]
  by_cases hk : m.kind = 0 <;> cases m.hasAttrs <;> cases operStateChange m.oper <;> simp [hk]

theorem changesFor_cons (m : Msg) (msgs : List Msg) (i : Nat) :
    changesFor (m :: msgs) i = changesFor [m] i ++ changesFor msgs i := by
  simp only [changesFor, ← List.filterMap_append, ← List.filter_append, List.singleton_append]

/-! ### the change set -/

theorem lookup_addChange (cs : ChangeSet) (j c i : Nat) :
    lookup (addChange cs j c) i = if j = i then lookup cs i ++ [c] else lookup cs i := by
  induction cs with
  | nil => by_cases h : j = i <;> simp [addChange, lookup, h]
  | cons e cs ih =>
    unfold addChange
    by_cases he : e.1 = j
    · by_cases hji : j = i
      · simp [he, hji, lookup]
      · have : ¬ e.1 = i := by rw [he]; exact hji
        simp [he, hji, lookup]
    · by_cases hei : e.1 = i
      · have hji : ¬ j = i := fun h => he (by rw [hei, h])
        have hij : ¬ i = j := fun h => hji h.symm
        simp [hei, lookup, hji, hij]
      · simp [he, hei, lookup, ih]

theorem keys_addChange (cs : ChangeSet) (j c : Nat) :
    keys (addChange cs j c) = if j ∈ keys cs then keys cs else keys cs ++ [j] := by
  induction cs with
  | nil => simp [addChange, keys]
  | cons e cs ih =>
    unfold addChange
    by_cases he : e.1 = j
    · simp [he, keys]
    · have hne : ¬ j = e.1 := fun h => he h.symm
      unfold keys at ih
      by_cases hm : j ∈ List.map (·.1) cs
      · simp [he, keys, hne, hm, ih]
      · simp [he, keys, hne, hm, ih]

theorem mem_keys_of_lookup {cs : ChangeSet} {i : Nat} (h : lookup cs i ≠ []) : i ∈ keys cs := by
  induction cs with
  | nil => simp [lookup] at h
  | cons e cs ih =>
    by_cases he : e.1 = i
    · simp [keys, he]
    · simp only [lookup, he, if_false] at h
      exact List.mem_cons_of_mem _ (ih h)

theorem lookup_of_mem {cs : ChangeSet} (h : (keys cs).Nodup) {e : Nat × List Nat} (he : e ∈ cs) :
    lookup cs e.1 = e.2 := by
  induction cs with
  | nil => cases he
  | cons f cs ih =>
    rw [keys, List.map_cons, List.nodup_cons] at h
    rcases List.mem_cons.mp he with rfl | he
    · simp [lookup]
    · have : ¬ f.1 = e.1 := fun hf => h.1 (hf ▸ List.mem_map_of_mem he)
      simpa [lookup, this] using ih h.2 he

/-- a change set as `process` builds it: a map (every interface once) without empty entries -/
def Good (cs : ChangeSet) : Prop :=
  (keys cs).Nodup ∧ ∀ i ∈ keys cs, lookup cs i ≠ []

theorem good_addChange (cs : ChangeSet) (j c : Nat) (h : Good cs) : Good (addChange cs j c) := by
  refine ⟨?_, fun i hi => ?_⟩
  · rw [keys_addChange]
    split
    · exact h.1
    · exact List.nodup_append.mpr ⟨h.1, by simp,
        fun a ha b hb e => ‹j ∉ keys cs› (List.mem_singleton.mp hb ▸ e ▸ ha)⟩
  · rw [lookup_addChange]
    split
    · simp
    · rw [keys_addChange] at hi
      split at hi
      · exact h.2 i hi
      · rcases List.mem_append.mp hi with hi | hi
        · exact h.2 i hi
        · exact absurd (List.mem_singleton.mp hi).symm ‹_›

theorem good_stepMsg (cs : ChangeSet) (m : Msg) (h : Good cs) : Good (stepMsg cs m) := by
  unfold stepMsg
  cases contrib m with
  | none => exact h
  | some p => exact good_addChange cs p.1 p.2 h

theorem lookup_stepMsg (cs : ChangeSet) (m : Msg) (i : Nat) :
    lookup (stepMsg cs m) i = lookup cs i ++ changesFor [m] i := by
  unfold stepMsg changesFor
  rw [contrib_eq]
  by_cases hc : counts m = true
  · cases ho : changeOf m.oper with
    | none => simp [hc, ho]
    | some c => by_cases hi : m.iface = i <;> simp [hc, ho, hi, lookup_addChange]
  · simp [hc]

theorem process_good (msgs : List Msg) : Good (process msgs) := by
  have : ∀ cs, Good cs → Good (msgs.foldl stepMsg cs) := by
    induction msgs with
    | nil => exact fun _ h => h
    | cons m msgs ih => exact fun cs h => ih _ (good_stepMsg cs m h)
  exact this [] ⟨by simp [keys], by simp [keys]⟩

/-- **process_exact.**  For every batch and every interface: the interface's list in the change
    set is the oracle's `changesFor` — one Change per link message of that interface with
    attributes and a recognised state, in message order; every other message adds nothing, to
    this or to any other interface. -/
theorem process_exact (msgs : List Msg) (i : Nat) : lookup (process msgs) i = changesFor msgs i := by
  have : ∀ cs, lookup (msgs.foldl stepMsg cs) i = lookup cs i ++ changesFor msgs i := by
    induction msgs with
    | nil => simp [changesFor]
    | cons m msgs ih =>
      intro cs
      rw [List.foldl_cons, ih, lookup_stepMsg, List.append_assoc, ← changesFor_cons]
  exact this []

/-- Exactly one Change per counting message: the total number of changes in the set, summed
    over an interface, is the number of that interface's counting messages. -/
theorem process_count (msgs : List Msg) (i : Nat) :
    (lookup (process msgs) i).length = (msgs.filter fun m => counts m && m.iface == i).length := by
  rw [process_exact]
  refine length_filterMap_of_isSome fun m hm => ?_
  have := (List.mem_filter.mp hm).2
  simp only [counts, Bool.and_eq_true] at this
  exact this.1.2

/-- An interface has an entry iff at least one of its messages counts. -/
theorem mem_keys_iff (msgs : List Msg) (i : Nat) :
    i ∈ keys (process msgs) ↔ ∃ m ∈ msgs, counts m = true ∧ m.iface = i := by
  have : i ∈ keys (process msgs) ↔ 0 < (lookup (process msgs) i).length :=
    ⟨fun h => List.length_pos_iff.mpr ((process_good msgs).2 i h),
     fun h => mem_keys_of_lookup (List.length_pos_iff.mp h)⟩
  rw [this, process_count, List.length_pos_iff_exists_mem]
  simp [List.mem_filter]

/-! ### the model meets the oracle -/

theorem keys_canon_strict (msgs : List Msg) :
    (keys (canon (process msgs))).Pairwise (· < ·) :=
  List.pairwise_map.mpr (sortBy_strict (process_good msgs).1)

/-- The model's change set, rendered canonically, satisfies the oracle the check evaluates on
    the implementation's change set. -/
theorem holds_model (msgs : List Msg) : holds msgs (canon (process msgs)) = true := by
  unfold holds
  simp only [Bool.and_eq_true, List.all_eq_true, Bool.or_eq_true, Bool.not_eq_true',
    List.contains_eq_mem, decide_eq_true_eq, beq_iff_eq]
  refine ⟨⟨chain_of_pairwise _ rfl (fun _ => rfl) (fun _ _ _ => rfl) _ (keys_canon_strict msgs),
    fun e he => ?_⟩, fun m hm => ?_⟩
  · have he : e ∈ process msgs := mem_sortBy.mp he
    have hl := lookup_of_mem (process_good msgs).1 he
    have hne := (process_good msgs).2 e.1 (List.mem_map_of_mem he)
    rw [hl] at hne
    exact ⟨by simpa using hne, by rw [← hl, process_exact]⟩
  · by_cases hc : counts m = true
    · obtain ⟨e, he, hk⟩ := List.mem_map.mp ((mem_keys_iff msgs m.iface).mpr ⟨m, hm, hc, rfl⟩)
      exact .inr (List.mem_map.mpr ⟨e, mem_sortBy.mpr he, hk⟩)
    · exact .inl (by simpa using hc)

/-! ### `process` then `notify` -/

open Corerad.Model.Watcher

/-- the changes of interface `i` in the batch that intersect mask `m`, in message order -/
def matching (msgs : List Msg) (i m : Nat) : List Nat :=
  (changesFor msgs i).filter fun c => m &&& c != 0

theorem offeredSet_of_good (cs : ChangeSet) (h : (keys cs).Nodup) (i m : Nat) :
    offeredSet i m cs = (lookup cs i).filter fun c => m &&& c != 0 := by
  induction cs with
  | nil => rfl
  | cons e cs ih =>
    rw [keys, List.map_cons, List.nodup_cons] at h
    rw [offeredSet, List.flatMap_cons, ← offeredSet, ih h.2, lookup]
    by_cases he : e.1 = i
    · have : lookup cs i = [] :=
        Decidable.byContradiction fun hne => h.1 (he ▸ mem_keys_of_lookup hne)
      have hw : Spec.C19.wants i m i = fun c => m &&& c != 0 := funext fun c => by simp [Spec.C19.wants]
      simp [he, this, hw]
    · have hw : Spec.C19.wants i m e.1 = fun _ => false := funext fun c => by simp [Spec.C19.wants, he]
      simp [he, hw]

/-- What `notify(process(msgs))` offers to a subscriber `(i, m)`: exactly the changes of its
    interface whose bit intersects its mask, in message order. -/
theorem process_offers (msgs : List Msg) (i m : Nat) :
    offeredSet i m (process msgs) = matching msgs i m := by
  rw [offeredSet_of_good _ (process_good msgs).1, process_exact]; rfl

-- `hb` is not needed: `deliverSet_eq` holds of a buffer of any length
set_option linter.unusedVariables false in
/-- A subscriber with pending events receives a prefix of the matching changes after what it
    already holds, and nothing else; other subscribers' interface, mask and closed-ness are
    untouched (`Props.C19.notify_frame`). -/
theorem process_notify_general (st : State) (j : Nat) (s : Sub) (msgs : List Msg)
    (hs : st[j]? = some s) (hb : s.buf.length ≤ 8) :
    bufAt j (notify st (process msgs)) =
      s.buf ++ (matching msgs s.iface s.mask).take (8 - s.buf.length) := by
  rw [bufAt_of (s := deliverSet s (process msgs)) (by simp [notify_eq_map, hs]), deliverSet_eq,
    process_offers]
  rfl

/-- **process then notify.**  A subscriber to interface `i` with mask `m` whose channel is empty
    receives from `notify(process(msgs))` exactly the changes of the batch on `i` whose bit
    intersects `m`, in message order — up to the 8 the channel holds; later ones are dropped. -/
theorem process_notify_delivers (st : State) (i m : Nat) (msgs : List Msg) :
    bufAt st.length (notify (subscribe st i m) (process msgs)) = (matching msgs i m).take 8 :=
  process_notify_general _ _ _ msgs (subscribe_getElem? st i m) (Nat.zero_le _)

/-- …all of them when at most 8 match (the usual case: one message per interface and batch). -/
theorem process_notify_exact (st : State) (i m : Nat) (msgs : List Msg)
    (h : (matching msgs i m).length ≤ 8) :
    bufAt st.length (notify (subscribe st i m) (process msgs)) = matching msgs i m := by
  rw [process_notify_delivers, List.take_of_length_le h]

/-- A change reaches the subscriber only through the table: what is delivered for a message of
    state `s` is `LinkX` for the documented `X` — e.g. a subscriber to `LinkDown` (2) alone is
    woken by exactly the messages with operational state Down (2). -/
theorem matching_single_bit (msgs : List Msg) (i : Nat) (k : Fin 7) :
    matching msgs i (2 ^ k.val) =
      (changesFor msgs i).filter fun c => c == 2 ^ k.val := by
  refine List.filter_congr fun c hc => ?_
  obtain ⟨m, _, hm⟩ := List.mem_filterMap.mp hc
  rw [← mapping_eq_table] at hm
  exact (by decide : ∀ p ∈ stateTable, ∀ k : Fin 7, (2 ^ k.val &&& p.2 != 0) = (p.2 == 2 ^ k.val))
    _ (operStateChange_mem hm) k

/-! ### non-vacuity -/

/-- A batch with two interfaces, a non-link message, a link message without attributes and an
    out-of-range state: two entries, message order kept per interface; the oracle accepts the
    model's rendering and rejects a lost change, a swapped order, a wrong bit, an extra entry. -/
example :
    let msgs : List Msg :=
      [⟨0, true, 1, 6⟩, ⟨1, true, 1, 6⟩, ⟨0, false, 0, 0⟩, ⟨0, true, 0, 2⟩, ⟨0, true, 1, 2⟩,
       ⟨0, true, 1, 7⟩, ⟨0, true, 0, 255⟩, ⟨0, true, 1, 6⟩]
    process msgs = [(1, [1, 2, 1]), (0, [2])] ∧
    canon (process msgs) = [(0, [2]), (1, [1, 2, 1])] ∧
    holds msgs (canon (process msgs)) = true ∧
    holds msgs [(0, [2]), (1, [1, 2])] = false ∧
    holds msgs [(0, [2]), (1, [2, 1, 1])] = false ∧
    holds msgs [(0, [8]), (1, [1, 2, 1])] = false ∧
    holds msgs [(1, [1, 2, 1])] = false ∧
    holds msgs [(0, [2]), (1, [1, 2, 1]), (2, [])] = false ∧
    matching msgs 1 2 = [2] ∧ matching msgs 1 127 = [1, 2, 1] := by
  decide

end Corerad.Props.C19Process
