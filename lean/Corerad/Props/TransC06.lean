/-
  TransC06 — the Go → Lean translation of the multicast rate limit of `(*Advertiser).schedule`
  (internal/corerad/advertise.go) — what the scheduler's loop does with ONE request taken off its
  channel, synthesised as a pure function by `tools/extract/translate_synth.go` and regenerated into
  `Corerad.Gen.Trans.Advertiser_schedule_mc` from the current source text on every run — equals the
  step function `Corerad.Model.schedStep` that the C06 theorems (`Props/C06`: `multicast_spacing`,
  `multicast_served`) are about, for ALL states, instants and requests.

  Only equivalence theorems live here.
-/
import Corerad.Gen.Trans
import Corerad.Lemmas.Scheduler

namespace Corerad.Props.TransC06

open Corerad Corerad.Model

/-- a multicast request (periodic tick, or a solicitation from `::`): the new value of
    `nextMulticast` is the model's `next`, and a transmission is handed to the timer group exactly
    when the model schedules one — for the instant `nextMulticast` then holds -/
theorem schedule_mc_equiv (next now : Time) (minDelay : Dur) (unicastOnly : Bool) :
    Gen.Trans.Advertiser_schedule_mc (nextMulticast := next) (now := now) (minDelayBetweenRAs := minDelay)
        (unicastOnly := unicastOnly) (ipIsMulticast := true)
      = ((schedStep minDelay unicastOnly { next := next } now .mc 0).1.next,
         (schedStep minDelay unicastOnly { next := next } now .mc 0).2.isSome) := by
  rw [schedStep_mc, Gen.Trans.Advertiser_schedule_mc]
  cases unicastOnly
  · by_cases h1 : now < next
    · simp [h1]
    · -- what is left is the due instant: however the source spells the later of `now` and
      -- `next + minDelay`, `omega` identifies it with `max now (next + minDelay)`
      by_cases h2 : next + minDelay < now <;> simp [h1, h2] <;> omega
  · simp

/-- … and the transmission the model schedules is a multicast one, due at that value -/
theorem schedule_mc_due (next now : Time) (minDelay : Dur) (unicastOnly : Bool) (s : Send)
    (h : (schedStep minDelay unicastOnly { next := next } now .mc 0).2 = some s) :
    s.mc = true ∧ s.t = (Gen.Trans.Advertiser_schedule_mc (nextMulticast := next) (now := now)
        (minDelayBetweenRAs := minDelay) (unicastOnly := unicastOnly) (ipIsMulticast := true)).1 := by
  rw [schedule_mc_equiv]
  rw [schedStep_mc] at h ⊢
  split at h
  · cases h
  · next hc => cases h; rw [if_neg hc]; exact ⟨rfl, rfl⟩

/-- a unicast request never touches the multicast schedule (and the model's state is unchanged) -/
theorem schedule_uc_equiv (next now : Time) (minDelay : Dur) (unicastOnly : Bool) (h : Nat) (draw : Int) :
    Gen.Trans.Advertiser_schedule_mc (nextMulticast := next) (now := now) (minDelayBetweenRAs := minDelay)
        (unicastOnly := unicastOnly) (ipIsMulticast := false)
      = ((schedStep minDelay unicastOnly { next := next } now (.uc h) draw).1.next, false) := by
  simp [Gen.Trans.Advertiser_schedule_mc, schedStep]

/-- non-trivial instances: a request 2.9 s after the previous RA is scheduled for 3.0 s; one 0.1 s
    before a pending RA is coalesced; one long after the previous RA is sent at once -/
example : Gen.Trans.Advertiser_schedule_mc 0 (2900 * ms) (3 * second) false true = (3 * second, true) := by decide
example : Gen.Trans.Advertiser_schedule_mc (3 * second) (2900 * ms) (3 * second) false true = (3 * second, false) := by decide
example : Gen.Trans.Advertiser_schedule_mc (3 * second) (60 * second) (3 * second) false true = (60 * second, true) := by decide
example : Gen.Trans.Advertiser_schedule_mc (3 * second) (60 * second) (3 * second) true true = (3 * second, false) := by decide

end Corerad.Props.TransC06
