/-
  C13 — the `::/64` wildcard expands to exactly the interface's eligible /64 networks.
  All theorems quantify over every address list (any length, any order, any multiplicity).
-/
import Corerad.Spec.C13
import Corerad.Model.RA
import Corerad.Lemmas.ListUtil
import Corerad.Lemmas.Addr

namespace Corerad.Props.C13

open Corerad Corerad.Model

/-- The skip conditions in the code are exactly the documented eligibility predicate. -/
theorem eligible_eq (bits : Nat) (a : SysIP) : prefixEligible bits a = Spec.C13.eligible bits a := by
  simp only [prefixEligible, Spec.C13.eligible, Bool.not_or, bne, Bool.not_not, Bool.and_assoc]

/-- Membership: a prefix is advertised iff it is the network of some eligible address. -/
theorem mem_iff (bits : Nat) (as : List SysIP) (p : Prefix) :
    p ∈ currentPrefixes bits as ↔ ∃ a ∈ as, Spec.C13.eligible bits a = true ∧ a.addr.masked = p := by
  simp only [currentPrefixes, mem_sortBy, mem_dedupe, List.mem_map, List.mem_filter, eligible_eq,
    and_assoc]

theorem mem_shape {bits : Nat} {as : List SysIP} {p : Prefix} (hp : p ∈ currentPrefixes bits as) :
    p.addr.is6 = true ∧ p.bits = bits := by
  obtain ⟨a, _, he, rfl⟩ := (mem_iff bits as p).mp hp
  simp only [Spec.C13.eligible, Bool.and_eq_true, Bool.not_eq_true', beq_iff_eq] at he
  obtain ⟨⟨⟨⟨⟨hv, h4⟩, _⟩, hb⟩, _⟩, _⟩ := he
  rw [Prefix.masked_is6, Prefix.masked_bits]
  exact ⟨IP.is6_of_not_is4 (Prefix.valid_of_isValid hv) h4, hb⟩

private theorem key_inj (bits : Nat) (as : List SysIP) :
    ∀ p ∈ (as.filter (prefixEligible bits)).map (·.addr.masked),
    ∀ q ∈ (as.filter (prefixEligible bits)).map (·.addr.masked),
      addrKey p.addr = addrKey q.addr → p = q := by
  intro p hp q hq hk
  obtain ⟨p6, pb⟩ := mem_shape (bits := bits) (as := as) (mem_sortBy_dedupe.mpr hp)
  obtain ⟨q6, qb⟩ := mem_shape (bits := bits) (as := as) (mem_sortBy_dedupe.mpr hq)
  exact Prefix.eq_of (addrKey_inj p6 q6 hk) (pb.trans qb.symm)

theorem nodup (bits : Nat) (as : List SysIP) : (currentPrefixes bits as).Nodup :=
  nodup_sortBy (nodup_dedupe _)

/-- Each network once, in strictly ascending address order. -/
theorem sorted_strict (bits : Nat) (as : List SysIP) :
    (currentPrefixes bits as).Pairwise (fun p q => addrKey p.addr < addrKey q.addr) :=
  sortBy_strict (nodup_map_dedupe (key_inj bits as))

/-- The result depends only on *which* addresses the operating system lists — not on their
    order and not on how often each is listed. -/
theorem ext_invariant (bits : Nat) (as bs : List SysIP) (h : ∀ a, a ∈ as ↔ a ∈ bs) :
    currentPrefixes bits as = currentPrefixes bits bs :=
  sortBy_dedupe_congr (key_inj bits as) fun p => by simp only [List.mem_map, List.mem_filter, h]

theorem perm_invariant (bits : Nat) (as bs : List SysIP) (h : as.Perm bs) :
    currentPrefixes bits as = currentPrefixes bits bs :=
  ext_invariant bits as bs (fun _ => h.mem_iff)

theorem multiplicity_invariant (bits : Nat) (as : List SysIP) :
    currentPrefixes bits (as ++ as) = currentPrefixes bits as :=
  ext_invariant bits _ _ (fun a => by simp)

/-- The model meets the oracle that the check evaluates on the implementation's output. -/
theorem holds_model (bits : Nat) (as : List SysIP) :
    Spec.C13.holds bits as (currentPrefixes bits as) = true := by
  simp only [Spec.C13.holds, Bool.and_eq_true, List.all_eq_true, List.any_eq_true,
    not_or_eq_true_iff_imp, List.contains_eq_mem, decide_eq_true_eq, beq_iff_eq]
  exact ⟨⟨fun p hp => (mem_iff bits as p).mp hp, fun a ha he => (mem_iff bits as _).mpr ⟨a, ha, he, rfl⟩⟩,
    chain_of_pairwise _ rfl (fun _ => rfl) (fun _ _ _ => rfl) _ (sorted_strict bits as)⟩

/-- Every option the wildcard stanza yields is a Prefix Information option for one of the
    expanded prefixes, with the stanza's on-link and autonomous flags and the stanza's (possibly
    counted-down) valid and preferred lifetimes — and every expanded prefix gets one, in order.
    Stated of the model's `Plugin.apply` (the transcription of `(*Prefix).Apply`/`apply`, tied to
    the source by the differential runs of this check). -/
theorem uniform_stanza (sys : SysState) (p : Prefix) (onLink autonomous : Bool) (valid pref : Dur)
    (dep : Bool) (as : List SysIP) (hs : sys.addrs = some as) :
    Plugin.apply sys (.pfx true p onLink autonomous valid pref dep) =
      some ((currentPrefixes p.bits as).map fun q =>
        Opt.pi q.addr q.bits onLink autonomous
          (prefixLifetimes dep sys.epoch valid pref sys.now).1
          (prefixLifetimes dep sys.epoch valid pref sys.now).2) := by
  simp [Plugin.apply, hs]

/-- …and a failing address source fails the stanza (no option is invented). -/
theorem wildcard_fails_with_source (sys : SysState) (p : Prefix) (onLink autonomous : Bool)
    (valid pref : Dur) (dep : Bool) (hs : sys.addrs = none) :
    Plugin.apply sys (.pfx true p onLink autonomous valid pref dep) = none := by
  simp [Plugin.apply, hs]

/-- Non-vacuity: two hosts of one /64 (one listed twice), a temporary address in another /64
    and a link-local address expand to exactly one prefix. -/
example :
    let h1 : SysIP := { addr := { addr := { val := 0xfd000000000000010000000000000001 }, bits := 64 } }
    let h2 : SysIP := { addr := { addr := { val := 0xfd000000000000010000000000000002 }, bits := 64 }, stablePrivacy := true }
    let t  : SysIP := { addr := { addr := { val := 0x20010db8000000020000000000000001 }, bits := 64 }, temporary := true }
    let ll : SysIP := { addr := { addr := { val := 0xfe800000000000000000000000000001 }, bits := 64 } }
    currentPrefixes 64 [h2, ll, t, h1, h2] = [{ addr := { val := 0xfd000000000000010000000000000000 }, bits := 64 }] := by
  decide

end Corerad.Props.C13
