/-
  C15 — the `::/0` wildcard expands to the maximal, non-overlapping loopback routes.
  All theorems quantify over every route dump (any length, order, multiplicity) whose
  entries are valid canonical prefixes, as the kernel reports them.
-/
import Corerad.Spec.C15
import Corerad.Model.RA
import Corerad.Lemmas.ListUtil
import Corerad.Lemmas.Addr

namespace Corerad.Props.C15

open Corerad Corerad.Model

/-- Well-formed dump: every entry is a valid, canonical (masked) prefix. -/
def WF (rs : List Prefix) : Prop := ∀ r ∈ rs, r.isValid = true ∧ r.masked = r

theorem kept_eq_wanted (rs : List Prefix) (p : Prefix) : routeKept rs p = Spec.C15.wanted rs p := by
  simp only [routeKept, Spec.C15.wanted, Spec.C15.covers, Bool.not_or]

/-- Membership: exactly the IPv6 routes of the dump that are not /128 and not covered by a
    different, strictly shorter route. -/
theorem mem_iff (rs : List Prefix) (p : Prefix) :
    p ∈ currentRoutes rs ↔ p ∈ rs ∧ Spec.C15.wanted rs p = true := by
  simp only [currentRoutes, mem_sortBy, mem_dedupe, List.mem_filter, kept_eq_wanted]

theorem wanted_shape (rs : List Prefix) (p : Prefix) (hwf : WF rs) (hp : p ∈ currentRoutes rs) :
    p ∈ rs ∧ p.addr.is6 = true ∧ p.isValid = true ∧ p.masked = p ∧
      ∀ q ∈ rs, q.bits < p.bits → q.contains p.addr = false := by
  obtain ⟨hmem, hw⟩ := (mem_iff rs p).mp hp
  obtain ⟨hv, hm⟩ := hwf p hmem
  simp only [Spec.C15.wanted, Spec.C15.covers, Bool.and_eq_true, Bool.not_eq_true', List.any_eq_false,
    decide_eq_true_eq, not_and, Bool.not_eq_true] at hw
  exact ⟨hmem, IP.is6_of_not_is4 (Prefix.valid_of_isValid hv) hw.1.1, hv, hm, hw.2⟩

private theorem contains_iff6 {p q : Prefix} (hp : p.isValid = true) (hp6 : p.addr.is6 = true)
    (hq6 : q.addr.is6 = true) :
    p.contains q.addr = true ↔
      Prefix.maskVal 128 p.bits q.addr.val = Prefix.maskVal 128 p.bits p.addr.val := by
  obtain ⟨_, p4⟩ := (IP.is6_iff _).mp hp6
  obtain ⟨qv, q4⟩ := (IP.is6_iff _).mp hq6
  simp [Prefix.contains, hp, qv, p4, q4, IP.bitLen_of_is6 hp6, IP.bitLen_of_is6 hq6]

private theorem overlaps_iff6 {p q : Prefix} (hp : p.isValid = true) (hq : q.isValid = true)
    (hp6 : p.addr.is6 = true) (hq6 : q.addr.is6 = true) :
    p.overlaps q = true ↔
      Prefix.maskVal 128 (min p.bits q.bits) p.addr.val = Prefix.maskVal 128 (min p.bits q.bits) q.addr.val := by
  obtain ⟨_, p4⟩ := (IP.is6_iff _).mp hp6
  obtain ⟨_, q4⟩ := (IP.is6_iff _).mp hq6
  simp [Prefix.overlaps, hp, hq, p4, q4, IP.bitLen_of_is6 hp6, IP.bitLen_of_is6 hq6]

/-- Two advertised routes that overlap are the same route: the shorter one would contain the
    longer, and at equal length both are canonical. -/
private theorem eq_of_overlaps (rs : List Prefix) (hwf : WF rs) (p q : Prefix)
    (hp : p ∈ currentRoutes rs) (hq : q ∈ currentRoutes rs) (hov : p.overlaps q = true) : p = q := by
  obtain ⟨pmem, p6, pval, pm, pmax⟩ := wanted_shape rs p hwf hp
  obtain ⟨qmem, q6, qval, qm, qmax⟩ := wanted_shape rs q hwf hq
  rw [overlaps_iff6 pval qval p6 q6] at hov
  rcases Nat.lt_trichotomy p.bits q.bits with hlt | heq | hgt
  · rw [Nat.min_eq_left (Nat.le_of_lt hlt)] at hov
    have := qmax p pmem hlt
    rw [(contains_iff6 pval p6 q6).mpr hov.symm] at this; cases this
  · rw [heq, Nat.min_self, Prefix.maskVal_of_masked q6 qm, ← heq, Prefix.maskVal_of_masked p6 pm] at hov
    exact Prefix.eq_of (IP.eq_of_is6 p6 q6 hov) heq
  · rw [Nat.min_eq_right (Nat.le_of_lt hgt)] at hov
    have := pmax q qmem hgt
    rw [(contains_iff6 qval q6 p6).mpr hov] at this; cases this

/-- No two advertised routes overlap — the rule the configuration enforces for static routes. -/
theorem non_overlapping (rs : List Prefix) (hwf : WF rs) (p q : Prefix)
    (hp : p ∈ currentRoutes rs) (hq : q ∈ currentRoutes rs) (hne : p ≠ q) :
    p.overlaps q = false :=
  Bool.eq_false_iff.mpr fun hov => hne (eq_of_overlaps rs hwf p q hp hq hov)

theorem nodup (rs : List Prefix) : (currentRoutes rs).Nodup :=
  nodup_sortBy (nodup_dedupe _)

private theorem key_inj (rs : List Prefix) (hwf : WF rs) :
    ∀ p ∈ rs.filter (routeKept rs), ∀ q ∈ rs.filter (routeKept rs),
      addrKey p.addr = addrKey q.addr → p = q := by
  intro p hp q hq hk
  have hp : p ∈ currentRoutes rs := mem_sortBy_dedupe.mpr hp
  have hq : q ∈ currentRoutes rs := mem_sortBy_dedupe.mpr hq
  obtain ⟨_, p6, pval, _⟩ := wanted_shape rs p hwf hp
  obtain ⟨_, q6, qval, _⟩ := wanted_shape rs q hwf hq
  apply eq_of_overlaps rs hwf p q hp hq
  rw [overlaps_iff6 pval qval p6 q6, addrKey_inj p6 q6 hk]

/-- Strictly ascending by address: each route once, and no two routes share a base address. -/
theorem sorted_strict (rs : List Prefix) (hwf : WF rs) :
    (currentRoutes rs).Pairwise (fun p q => addrKey p.addr < addrKey q.addr) :=
  sortBy_strict (nodup_map_dedupe (key_inj rs hwf))

/-- The result depends only on *which* routes the dump contains: not on their order and not
    on how often each is listed. -/
theorem ext_invariant (rs ss : List Prefix) (hwf : WF rs) (h : ∀ r, r ∈ rs ↔ r ∈ ss) :
    currentRoutes rs = currentRoutes ss := by
  refine sortBy_dedupe_congr (key_inj rs hwf) fun p => ?_
  have hany : rs.any (fun q => Spec.C15.covers q p) = ss.any (fun q => Spec.C15.covers q p) := by
    rw [Bool.eq_iff_iff]; simp only [List.any_eq_true, h]
  simp only [List.mem_filter, kept_eq_wanted, Spec.C15.wanted, hany, h p]

theorem perm_invariant (rs ss : List Prefix) (hwf : WF rs) (h : rs.Perm ss) :
    currentRoutes rs = currentRoutes ss :=
  ext_invariant rs ss hwf (fun _ => h.mem_iff)

theorem multiplicity_invariant (rs : List Prefix) (hwf : WF rs) :
    currentRoutes (rs ++ rs) = currentRoutes rs :=
  (ext_invariant rs _ hwf fun a => by simp).symm

theorem noOverlap_iff (l : List Prefix) :
    Spec.C15.noOverlap l = true ↔ l.Pairwise (fun p q => p.overlaps q = false) := by
  induction l with
  | nil => simp [Spec.C15.noOverlap]
  | cons p r ih => simp [Spec.C15.noOverlap, ih]

/-- The model meets the oracle that the check evaluates on the implementation's output. -/
theorem holds_model (rs : List Prefix) (hwf : WF rs) :
    Spec.C15.holds rs (currentRoutes rs) = true := by
  simp only [Spec.C15.holds, Bool.and_eq_true, List.all_eq_true, not_or_eq_true_iff_imp,
    List.contains_eq_mem, decide_eq_true_eq]
  exact ⟨⟨⟨fun p hp => (mem_iff rs p).mp hp, fun p hp hw => (mem_iff rs p).mpr ⟨hp, hw⟩⟩,
      chain_of_pairwise _ rfl (fun _ => rfl) (fun _ _ _ => rfl) _ (sorted_strict rs hwf)⟩,
    (noOverlap_iff _).mpr ((nodup rs).imp_of_mem fun hp hq hne => non_overlapping rs hwf _ _ hp hq hne)⟩

/-- Every option the `::/0` stanza yields is a Route Information option for one of the expanded
    routes with the stanza's preference and (possibly counted-down) lifetime — one per expanded
    route, in order. Stated of the model's `Plugin.apply` (the transcription of `(*Route).Apply`,
    tied to the source by the differential runs of this check). -/
theorem uniform_stanza (sys : SysState) (p : Prefix) (preference : Nat) (lifetime : Dur) (dep : Bool)
    (rs : List Prefix) (hs : sys.routes = some rs) :
    Plugin.apply sys (.route true p preference lifetime dep) =
      some ((currentRoutes rs).map fun q =>
        Opt.ri q.addr q.bits preference (routeLifetime dep sys.epoch lifetime sys.now)) := by
  simp [Plugin.apply, hs]

theorem wildcard_fails_with_source (sys : SysState) (p : Prefix) (preference : Nat) (lifetime : Dur)
    (dep : Bool) (hs : sys.routes = none) :
    Plugin.apply sys (.route true p preference lifetime dep) = none := by
  simp [Plugin.apply, hs]

/-- Non-vacuity and the repaired defect F-11: /48 and /64 at one base address keep the /48,
    a duplicated entry is advertised once, host routes and IPv4 are skipped. -/
example :
    let a48 : Prefix := { addr := { val := 0x20010db8000000000000000000000000 }, bits := 48 }
    let a64 : Prefix := { addr := { val := 0x20010db8000000000000000000000000 }, bits := 64 }
    let b64 : Prefix := { addr := { val := 0x20010db8000100020000000000000000 }, bits := 64 }
    let h   : Prefix := { addr := { val := 0x20010db8000000000000000000000001 }, bits := 128 }
    let v4  : Prefix := { addr := { v4 := true, val := 0x0a000000 }, bits := 8 }
    WF [b64, a64, h, a48, v4, b64] ∧ currentRoutes [b64, a64, h, a48, v4, b64] = [a48, b64] := by
  unfold WF; decide

end Corerad.Props.C15
