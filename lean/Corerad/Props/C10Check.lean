/-
  C10, OS-glue part — `checkInterface`, `lookupInterface`, `isNoSuchInterface` of
  internal/system/conn.go, and the link to the dialer's recovery policy.

  All theorems quantify over every interface state: up or down, an address listing that fails
  in any of the three ways `Dialer.init` tells apart, or any address list (any length; entries
  that are not `*net.IPNet`, byte slices of the wrong length, IPv4 in 4-byte and in IPv4-mapped
  16-byte form, IPv6 of any kind).  Model: Model/CheckIface.lean; oracle evaluated on the real
  `checkInterface`'s answer: Spec/C10Check.lean; dialer model and policy oracle:
  Model/Dialer.lean, Spec/C10Dialer.lean, Props/C10Dialer.lean.

  Finding F-16 (see `gap_iff`, `finding_witness`; repaired in /repo, `current_meets_spec`): with
  the address test of the pinned source (`codeExcludes4In6 = false`) an interface whose only
  link-local address is an IPv4-mapped 169.254.0.0/16 one was reported ready.
-/
import Corerad.Spec.C10Check
import Corerad.Props.C10Dialer

namespace Corerad.Props.C10Check

open Corerad Corerad.Model.Dialer Corerad.Model.CheckIface Corerad.Spec.C10Check
open Corerad.Spec.C10Dialer (dialClass)

/-! ### the address test -/

/-- the source's address test in the oracle's terms: fe80::/10, and — unless `!ip.Is4In6()` is
    required — IPv4-mapped 169.254.0.0/16 (`Is6` is true for an IPv4-mapped address and
    `IsLinkLocalUnicast` unmaps it) -/
theorem addrTest_eq (strict : Bool) (ip : IP) :
    addrTest strict ip = (isV6LinkLocal ip || (!strict && isMappedV4LinkLocal ip)) := by
  unfold addrTest isV6LinkLocal isMappedV4LinkLocal IP.isLinkLocalUnicast IP.unmap IP.is4In6 IP.is6 IP.is4
  cases hv : ip.valid <;> cases h4 : ip.v4 <;> simp
  by_cases hm : ip.val / 2 ^ 32 = 65535
  · have : ¬ ip.val / 2 ^ 118 = 1018 := by omega
    cases strict <;> simp [hm, this]
  · cases strict <;> simp [hm, hv, h4]

/-- the two tests differ exactly on IPv4-mapped 169.254.0.0/16 -/
theorem addrTest_differ_iff (ip : IP) :
    addrTest false ip ≠ addrTest true ip ↔ isMappedV4LinkLocal ip = true := by
  simp only [addrTest_eq]
  have hex : isV6LinkLocal ip = true → isMappedV4LinkLocal ip = false := by
    unfold isV6LinkLocal isMappedV4LinkLocal
    cases ip.valid <;> cases ip.v4 <;> simp
    intro h1 h2
    omega
  cases h1 : isV6LinkLocal ip <;> cases h2 : isMappedV4LinkLocal ip <;> simp
  exact absurd (hex h1) (by simp [h2])

/-! ### `checkInterface` -/

theorem checkWith_cases (strict : Bool) (i : Iface) :
    (i.up = false ∧ checkWith strict i = { out := .linkNotReady }) ∨
    (∃ f, i.up = true ∧ i.addrs = .error f ∧ checkWith strict i = { out := f.out, wrapsAddrErr := true }) ∨
    (∃ as, i.up = true ∧ i.addrs = .ok as ∧
      ((∃ a ∈ as, a.isIPNet = true ∧ addrTest strict a.ip = true) ∧ checkWith strict i = { out := .ok } ∨
       (∀ a ∈ as, ¬ (a.isIPNet = true ∧ addrTest strict a.ip = true)) ∧
         checkWith strict i = { out := .linkNotReady })) := by
  unfold checkWith
  cases i.up
  · exact .inl ⟨rfl, rfl⟩
  · cases i.addrs with
    | error f => exact .inr (.inl ⟨f, rfl, rfl, rfl⟩)
    | ok as =>
      refine .inr (.inr ⟨as, rfl, rfl, ?_⟩)
      cases h : as.any (entryMatches strict) <;> simp [entryMatches] at h <;> simp [entryMatches, h]
      exact .inr h

/-- **check_ok_iff.**  `checkInterface` returns nil iff the interface is up, its addresses could
    be listed, and one of them is a `*net.IPNet` that passes the address test. -/
theorem check_ok_iff (strict : Bool) (i : Iface) :
    (checkWith strict i).out = .ok ↔
      i.up = true ∧ ∃ as, i.addrs = .ok as ∧ ∃ a ∈ as, a.isIPNet = true ∧ addrTest strict a.ip = true := by
  rcases checkWith_cases strict i with ⟨hu, h⟩ | ⟨f, hu, ha, h⟩ | ⟨as, hu, ha, ⟨hm, h⟩ | ⟨hm, h⟩⟩ <;>
    rw [h]
  · simp [hu]
  · cases f <;> simp [ha, AddrFail.out]
  · simpa [hu, ha] using hm
  · simpa [hu, ha] using hm

/-- …with the documented test: nil ⇔ up ∧ some address is an IPv6 link-local unicast address. -/
theorem check_ok_iff_documented (i : Iface) :
    (checkWith true i).out = .ok ↔
      i.up = true ∧ ∃ as, i.addrs = .ok as ∧ ∃ a ∈ as, a.isIPNet = true ∧ isV6LinkLocal a.ip = true := by
  simp [check_ok_iff, addrTest_eq]

/-- …with the pinned source's test: nil ⇔ up ∧ some address is an IPv6 link-local unicast
    address *or an IPv4-mapped 169.254.0.0/16 address*. -/
theorem check_ok_iff_pinned (i : Iface) :
    (checkWith false i).out = .ok ↔
      i.up = true ∧ ∃ as, i.addrs = .ok as ∧
        ∃ a ∈ as, a.isIPNet = true ∧ (isV6LinkLocal a.ip = true ∨ isMappedV4LinkLocal a.ip = true) := by
  simp [check_ok_iff, addrTest_eq]

/-- **not_ready_iff.**  `checkInterface` returns an error wrapping `ErrLinkNotReady` iff the
    interface is down, or it is up, its addresses could be listed, and none passes the test. -/
theorem not_ready_iff (strict : Bool) (i : Iface) :
    (checkWith strict i).out = .linkNotReady ↔
      i.up = false ∨
      (∃ as, i.addrs = .ok as ∧ ∀ a ∈ as, ¬ (a.isIPNet = true ∧ addrTest strict a.ip = true)) := by
  rcases checkWith_cases strict i with ⟨hu, h⟩ | ⟨f, hu, ha, h⟩ | ⟨as, hu, ha, ⟨hm, h⟩ | ⟨hm, h⟩⟩ <;>
    rw [h]
  · simp [hu]
  · cases f <;> simp [hu, ha, AddrFail.out]
  · simpa [hu, ha] using hm
  · simpa [hu, ha] using hm

/-- An address-listing failure on an interface that is up is passed through wrapped (`%w`):
    the error keeps its class — a system-call error stays a system-call error, a permission
    error stays a permission error — and `errors.Is` still finds the original error. -/
theorem addr_error_passthrough (strict : Bool) (i : Iface) (f : AddrFail)
    (hu : i.up = true) (ha : i.addrs = .error f) :
    checkWith strict i = { out := f.out, wrapsAddrErr := true } ∧
    (f = .syscall → (checkWith strict i).out = .syscall) ∧
    (f = .permission → (checkWith strict i).out = .permission) ∧
    (f = .other → (checkWith strict i).out = .other) := by
  have h : checkWith strict i = { out := f.out, wrapsAddrErr := true } := by
    simp [checkWith, hu, ha]
  refine ⟨h, ?_, ?_, ?_⟩ <;> (rintro rfl; rw [h]; rfl)

/-- Nothing else: apart from a passed-through listing failure the answer is nil or
    link-not-ready, and it wraps no foreign error. -/
theorem check_classes (strict : Bool) (i : Iface) :
    (∃ f, i.up = true ∧ i.addrs = .error f) ∨
    (checkWith strict i = { out := .ok } ∨ checkWith strict i = { out := .linkNotReady }) := by
  rcases checkWith_cases strict i with ⟨_, h⟩ | ⟨f, hu, ha, _⟩ | ⟨_, _, _, ⟨_, h⟩ | ⟨_, h⟩⟩
  · exact .inr (.inr h)
  · exact .inl ⟨f, hu, ha⟩
  · exact .inr (.inl h)
  · exact .inr (.inr h)

/-- A down interface is never asked for its addresses (`addrFunc` is not called): the answer
    does not depend on the address list. -/
theorem down_ignores_addrs (strict : Bool) (i j : Iface) (hi : i.up = false) (hj : j.up = false) :
    checkWith strict i = checkWith strict j := by
  simp [checkWith, hi, hj]

theorem any_entryMatches_eq (strict : Bool) (as : List NetAddr) :
    as.any (entryMatches strict) =
      (hasV6LinkLocal as || (!strict && as.any fun a => a.isIPNet && isMappedV4LinkLocal a.ip)) := by
  cases strict
  · rw [hasV6LinkLocal, Bool.not_false, Bool.true_and, ← Model.any_or]
    congr 1; funext a
    simp [entryMatches, addrTest_eq, Bool.and_or_distrib_left]
  · rw [hasV6LinkLocal, Bool.not_true, Bool.false_and, Bool.or_false]
    congr 1; funext a
    simp [entryMatches, addrTest_eq]

theorem ne_expected_iff (strict : Bool) (i : Iface) :
    checkWith strict i ≠ expected i ↔ (!strict && v4MappedClass i (checkWith strict i)) = true := by
  unfold checkWith expected v4MappedClass
  cases hu : i.up
  · simp
  · cases ha : i.addrs with
    | error f => cases f <;> simp [AddrFail.out]
    | ok as =>
      simp only [Bool.not_true, Bool.false_eq_true, if_false, any_entryMatches_eq]
      cases strict <;> cases hasV6LinkLocal as <;>
        cases as.any (fun a => a.isIPNet && isMappedV4LinkLocal a.ip) <;> simp

/-- With the documented address test the model is the oracle's `expected`, for every interface. -/
theorem strict_meets_spec (i : Iface) : checkWith true i = expected i := by
  simpa using ne_expected_iff true i

/-- With the pinned source's test the model differs from the documented answer exactly on the
    finding's class: up, addresses listed, no IPv6 link-local address, some IPv4-mapped
    169.254.0.0/16 address, and nil returned. -/
theorem gap_iff (i : Iface) :
    checkWith false i ≠ expected i ↔ v4MappedClass i (checkWith false i) = true := by
  simpa using ne_expected_iff false i

/-- Hence on every interface without an IPv4-mapped 169.254.0.0/16 address the pinned source
    answers as documented. -/
theorem pinned_meets_spec_of_no_mapped (i : Iface)
    (h : ∀ as, i.addrs = .ok as → ∀ a ∈ as, ¬ (a.isIPNet = true ∧ isMappedV4LinkLocal a.ip = true)) :
    checkWith false i = expected i := by
  apply Decidable.byContradiction
  intro hne
  have hc := (gap_iff i).mp hne
  unfold v4MappedClass at hc
  cases ha : i.addrs with
  | error f => simp [ha] at hc
  | ok as =>
    simp only [ha, Bool.and_eq_true, List.any_eq_true] at hc
    obtain ⟨_, _, a, ha', h1, h2⟩ := hc
    exact h as ha a ha' ⟨h1, h2⟩

/-- The finding's witness: `eth0` is up and holds 169.254.7.9/16 (as package net reports it:
    `::ffff:169.254.7.9`) and the global address 2001:db8::1, no fe80:: address.  The documented
    answer is link-not-ready; the pinned source's test answers nil. -/
theorem finding_witness :
    let i : Iface := ⟨true, .ok
      ([⟨true, { val := 0xffffa9fe0709 }⟩, ⟨true, { val := 0x20010db8000000000000000000000001 }⟩])⟩
    expected i = { out := .linkNotReady } ∧ checkWith false i = { out := .ok } ∧
    checkWith true i = { out := .linkNotReady } ∧ v4MappedClass i (checkWith false i) = true := by
  decide

/-! ### the current source (regenerated facts) -/

/-- The address test of `checkInterface` as it stands in conn.go now (regenerated on every run):
    a 16-byte address that is not IPv4-mapped and is link-local unicast. -/
theorem gen_addr_test :
    Gen.Dialer.checkAddrConjuncts = ["ok", "ip.Is6()", "!ip.Is4In6()", "ip.IsLinkLocalUnicast()"] :=
  rfl

theorem gen_excludes_4in6 : codeExcludes4In6 = true := rfl

/-- Hence the current source answers as documented on every interface state (F-16 repaired). -/
theorem current_meets_spec (i : Iface) : check i = expected i := by
  unfold check
  rw [gen_excludes_4in6]
  exact strict_meets_spec i

/-! ### `lookupInterface` -/

/-- `lookupInterface` answers as documented: an interface that does not exist yet is
    link-not-ready (recoverable), any other lookup failure is unrecoverable. -/
theorem lookup_meets_spec (err : Option OpErr) : lookup err = expectedLookup err := by
  cases err with
  | none => rfl
  | some e => simp [lookup, expectedLookup, isNoSuchInterface]

theorem lookup_not_ready_iff (err : Option OpErr) :
    lookup err = .linkNotReady ↔
      ∃ e, err = some e ∧ e.isOpError = true ∧ e.opRoute = true ∧ e.netIPNet = true ∧ e.msgNoSuch = true := by
  cases err with
  | none => simp [lookup]
  | some e =>
    have : isNoSuchInterface e = true ↔
        e.isOpError = true ∧ e.opRoute = true ∧ e.netIPNet = true ∧ e.msgNoSuch = true := by
      simp [isNoSuchInterface, and_assoc]
    simp only [lookup, Option.some.injEq, exists_eq_left', ← this]
    split <;> simp [*]

/-! ### the link to the dialer's recovery policy (Spec/C10Dialer.lean) -/

/-- Which `DialOutcome` each answer is, for the policy of `Dialer.init`:
    nil ↦ fine; down / no link-local address / interface does not exist ↦ `linkNotReady`,
    recoverable; listing failed with a system-call error ↦ `syscall`, recoverable; with a
    permission error ↦ `permission`, fatal; with anything else ↦ `other`, fatal. -/
theorem outcome_classes :
    dialClass DialOut.ok = .fine ∧ dialClass DialOut.linkNotReady = .recoverable ∧
    dialClass AddrFail.syscall.out = .recoverable ∧ dialClass AddrFail.permission.out = .fatal ∧
    dialClass AddrFail.other.out = .fatal := by
  decide

/-- **Recoverability matches the policy.**  The answer of `checkInterface` is a recoverable
    cause for `Dialer.init` iff the interface is down, or has no address passing the test, or
    listing its addresses failed with a system-call error that is not a permission error. -/
theorem recoverable_iff (strict : Bool) (i : Iface) :
    dialClass (checkWith strict i).out = .recoverable ↔
      i.up = false ∨ i.addrs = .error .syscall ∨
      (∃ as, i.addrs = .ok as ∧ ∀ a ∈ as, ¬ (a.isIPNet = true ∧ addrTest strict a.ip = true)) := by
  rcases checkWith_cases strict i with ⟨hu, h⟩ | ⟨f, hu, ha, h⟩ | ⟨as, hu, ha, ⟨hm, h⟩ | ⟨hm, h⟩⟩ <;>
    rw [h]
  · simp [hu, dialClass]
  · cases f <;> simp [hu, ha, AddrFail.out, dialClass]
  · simpa [hu, ha, dialClass] using hm
  · simpa [hu, ha, dialClass] using hm

/-- A link-not-ready answer is never fatal and never "fine": `errors.Is(err, ErrLinkNotReady)`
    puts `init` on its re-dial path. -/
theorem not_ready_next (k : Nat) : DialOut.linkNotReady.next k = .inr (.retry 0) :=
  enterRetry_zero

/-- Run level: when the first `dial()` of a `Dialer.Dial` fails in `checkInterface` (or in
    `lookupInterface`) with link-not-ready, `Dial` does not return: it goes on re-dialling with
    the first re-dial due at once (`retry 0`, wait 0) — whatever the mode, the cancellation
    instant and the rest of the script. -/
theorem not_ready_redials (leak : Bool) (cfg : Cfg) (a : Attempt) (as : List Attempt)
    (h : a.pre = .linkNotReady) :
    dialRunWith leak cfg (a :: as) =
      { goRun leak cfg (.retry 0) { k := 1, now := 0, ac := cfg.ac0 } as with
        evs := [.dial 0, .dialRet 0 .linkNotReady] ++
               (goRun leak cfg (.retry 0) { k := 1, now := 0, ac := cfg.ac0 } as).evs } := by
  unfold dialRunWith
  have hs : stepAttempt leak cfg .first { k := 0, now := 0, ac := cfg.ac0 } a =
      { evs := [.dial 0, .dialRet 0 .linkNotReady], st := { k := 1, now := 0, ac := cfg.ac0 },
        next := .inr (.retry 0) } := by
    simp [stepAttempt, afterDial, dialFn, h, not_ready_next]
  rw [goRun_cons_inr as (ph' := .retry 0) (by rw [hs])]
  rw [hs]

/-- …and a passed-through permission error, or any non-system-call listing failure, ends `Dial`
    at once with exactly that error (`Props.C10Dialer.first_dial_fatal`). -/
theorem fatal_returns (leak : Bool) (cfg : Cfg) (i : Iface) (f : AddrFail) (as : List Attempt)
    (hu : i.up = true) (ha : i.addrs = .error f) (hf : f = .permission ∨ f = .other) :
    dialRunWith leak cfg ({ pre := (check i).out } :: as) =
      { evs := [.dial 0, .dialRet 0 f.out, .ret (.dial 0)], ret := .dial 0, ac := cfg.ac0 } := by
  have : (check i).out = f.out := by
    unfold check; rw [(addr_error_passthrough _ i f hu ha).1]
  rw [this]
  apply Props.C10Dialer.first_dial_fatal
  rcases hf with rfl | rfl
  · left; rfl
  · right; rfl

/-- Every run of `Dial` whose `DialFunc` outcomes come from `lookupInterface`/`checkInterface`
    on any sequence of interface states satisfies the recovery-policy oracle of C10
    (instance of `Props.C10Dialer.holds_model`: the policy is proved for every script). -/
theorem dial_over_check_holds (cfg : Cfg) (states : List (Option OpErr × Iface)) (rest : List Attempt) :
    Spec.C10Dialer.holds
      (dialRun cfg (states.map (fun s => { pre := lookupThenCheck s.1 s.2 }) ++ rest)).evs = true :=
  Props.C10Dialer.holds_model _ _

end Corerad.Props.C10Check
