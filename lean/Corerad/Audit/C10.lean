-- REGENERATED by /verif/check: axiom audit of every theorem in Props/C10.lean
import Corerad.Props.C10Dialer
import Corerad.Props.C10
import Corerad.Props.C10Check
import Corerad.Props.C10Queue
import Corerad.Props.TransC10
import Corerad.Props.C09
import Corerad.Props.TransC09
#print axioms Corerad.Props.C10Dialer.gen_constants
#print axioms Corerad.Props.C10Dialer.delay_closed_form
#print axioms Corerad.Props.C10Dialer.delay_table
#print axioms Corerad.Props.C10Dialer.classification
#print axioms Corerad.Props.C10Dialer.backoff_exact
#print axioms Corerad.Props.C10Dialer.attempts_le_50
#print axioms Corerad.Props.C10Dialer.cancel_prompt
#print axioms Corerad.Props.C10Dialer.holds_model
#print axioms Corerad.Props.C10Dialer.cancel_in_wait
#print axioms Corerad.Props.C10Dialer.first_dial_fatal
#print axioms Corerad.Props.C10Dialer.fifty_failures_time_out
#print axioms Corerad.Props.C10.gen_cancel_before_wait
#print axioms Corerad.Props.C10.inv_init
#print axioms Corerad.Props.C10.inv_step
#print axioms Corerad.Props.C10.isRun
#print axioms Corerad.Props.C10.flag_of_disabled
#print axioms Corerad.Props.C10.returned_of_quiescent
#print axioms Corerad.Props.C10.no_half_alive
#print axioms Corerad.Props.C10.teardown_terminates
#print axioms Corerad.Props.C10.half_alive_witness
#print axioms Corerad.Props.C10Check.addrTest_eq
#print axioms Corerad.Props.C10Check.addrTest_differ_iff
#print axioms Corerad.Props.C10Check.checkWith_cases
#print axioms Corerad.Props.C10Check.check_ok_iff
#print axioms Corerad.Props.C10Check.check_ok_iff_documented
#print axioms Corerad.Props.C10Check.check_ok_iff_pinned
#print axioms Corerad.Props.C10Check.not_ready_iff
#print axioms Corerad.Props.C10Check.addr_error_passthrough
#print axioms Corerad.Props.C10Check.check_classes
#print axioms Corerad.Props.C10Check.down_ignores_addrs
#print axioms Corerad.Props.C10Check.any_entryMatches_eq
#print axioms Corerad.Props.C10Check.ne_expected_iff
#print axioms Corerad.Props.C10Check.strict_meets_spec
#print axioms Corerad.Props.C10Check.gap_iff
#print axioms Corerad.Props.C10Check.pinned_meets_spec_of_no_mapped
#print axioms Corerad.Props.C10Check.finding_witness
#print axioms Corerad.Props.C10Check.gen_addr_test
#print axioms Corerad.Props.C10Check.gen_excludes_4in6
#print axioms Corerad.Props.C10Check.current_meets_spec
#print axioms Corerad.Props.C10Check.lookup_meets_spec
#print axioms Corerad.Props.C10Check.lookup_not_ready_iff
#print axioms Corerad.Props.C10Check.outcome_classes
#print axioms Corerad.Props.C10Check.recoverable_iff
#print axioms Corerad.Props.C10Check.not_ready_next
#print axioms Corerad.Props.C10Check.not_ready_redials
#print axioms Corerad.Props.C10Check.fatal_returns
#print axioms Corerad.Props.C10Check.dial_over_check_holds
#print axioms Corerad.Props.C10Queue.gen_sends_guarded
#print axioms Corerad.Props.C10Queue.inv_init
#print axioms Corerad.Props.C10Queue.refines
#print axioms Corerad.Props.C10Queue.stutters
#print axioms Corerad.Props.C10Queue.abs_ret
#print axioms Corerad.Props.C10Queue.coarse_or_stutter
#print axioms Corerad.Props.C10Queue.inv_iff_abs
#print axioms Corerad.Props.C10Queue.inv_step
#print axioms Corerad.Props.C10Queue.isRun
#print axioms Corerad.Props.C10Queue.quiescent_abs
#print axioms Corerad.Props.C10Queue.returned_of_quiescent
#print axioms Corerad.Props.C10Queue.no_half_alive
#print axioms Corerad.Props.C10Queue.s_done_step
#print axioms Corerad.Props.C10Queue.stopping_resolves
#print axioms Corerad.Props.C10Queue.teardown_terminates
#print axioms Corerad.Props.C10Queue.bare_send_half_alive_witness
#print axioms Corerad.Props.TransC10.dialer_delayInit_equiv
#print axioms Corerad.Props.TransC10.dialer_after_equiv
#print axioms Corerad.Props.TransC10.dialer_afterBody_equiv
#print axioms Corerad.Props.TransC10.dialer_loopStep_equiv
#print axioms Corerad.Props.TransC10.dialer_loopCond_equiv
#print axioms Corerad.Props.TransC10.dialer_waitSeq_equiv
#print axioms Corerad.Props.TransC10.init_switch_spec
#print axioms Corerad.Props.TransC10.init_switch_dialOut
#print axioms Corerad.Props.TransC10.init_switch_taskOut
#print axioms Corerad.Props.C09.gen_constants
#print axioms Corerad.Props.C09.gen_socket_setup
#print axioms Corerad.Props.C09.gen_eq_spec
#print axioms Corerad.Props.C09.listenSrc_eq
#print axioms Corerad.Props.C09.listen_induction
#print axioms Corerad.Props.C09.erase_err
#print axioms Corerad.Props.C09.erase_timeout
#print axioms Corerad.Props.C09.erase_valid
#print axioms Corerad.Props.C09.erase_invalid
#print axioms Corerad.Props.C09.erase_append
#print axioms Corerad.Props.C09.erase_timeouts
#print axioms Corerad.Props.C09.erase_all_invalid
#print axioms Corerad.Props.C09.erase_idem
#print axioms Corerad.Props.C09.erase_no_invalid
#print axioms Corerad.Props.C09.listen_fields
#print axioms Corerad.Props.C09.consumed_running
#print axioms Corerad.Props.C09.messages_only
#print axioms Corerad.Props.C09.never_fails
#print axioms Corerad.Props.C09.valid_all_delivered
#print axioms Corerad.Props.C09.invalid_counted
#print axioms Corerad.Props.C09.erasure
#print axioms Corerad.Props.C09.erased_counts_nothing
#print axioms Corerad.Props.C09.mem_validOf
#print axioms Corerad.Props.C09.invalid_never_delivered
#print axioms Corerad.Props.C09.nothing_valid_nothing_delivered
#print axioms Corerad.Props.C09.erase_eq_inert
#print axioms Corerad.Props.C09.InsertInvalid.erase_eq
#print axioms Corerad.Props.C09.insert_invalid_inert
#print axioms Corerad.Props.C09.insert_block_inert
#print axioms Corerad.Props.C09.hasRun_iff_infix
#print axioms Corerad.Props.C09.hasTimeoutRun_iff
#print axioms Corerad.Props.C09.not_prefix_row
#print axioms Corerad.Props.C09.hasTimeoutRun_row
#print axioms Corerad.Props.C09.hasTimeoutRun_cons
#print axioms Corerad.Props.C09.beforeErr_err
#print axioms Corerad.Props.C09.beforeErr_cons
#print axioms Corerad.Props.C09.beforeErr_append
#print axioms Corerad.Props.C09.beforeErr_not_mem
#print axioms Corerad.Props.C09.beforeErr_of_not_mem
#print axioms Corerad.Props.C09.eq_beforeErr_append
#print axioms Corerad.Props.C09.hasRun_beforeErr
#print axioms Corerad.Props.C09.expectedResultN_row
#print axioms Corerad.Props.C09.row_succ
#print axioms Corerad.Props.C09.result_eq_expected_at
#print axioms Corerad.Props.C09.result_eq_expected
#print axioms Corerad.Props.C09.expectedResultN_cases
#print axioms Corerad.Props.C09.exhausted_iff_at
#print axioms Corerad.Props.C09.exhausted_iff
#print axioms Corerad.Props.C09.readError_iff
#print axioms Corerad.Props.C09.running_iff
#print axioms Corerad.Props.C09.consumed_le
#print axioms Corerad.Props.C09.take_consumed
#print axioms Corerad.Props.C09.consumed_least
#print axioms Corerad.Props.C09.model_eq_expected
#print axioms Corerad.Props.C09.holds_iff
#print axioms Corerad.Props.C09.holds_model
#print axioms Corerad.Props.C09.holds_unique
#print axioms Corerad.Props.C09.holds_messagesOnly
#print axioms Corerad.Props.C09.failedClause_iff
#print axioms Corerad.Props.C09.src_erasure
#print axioms Corerad.Props.C09.src_invalid_never_delivered
#print axioms Corerad.Props.C09.src_insert_invalid_inert
#print axioms Corerad.Props.C09.src_exhausted_iff
#print axioms Corerad.Props.C09.src_never_fails
#print axioms Corerad.Props.C09.invalid_inert
#print axioms Corerad.Props.C09.timeouts_retried
#print axioms Corerad.Props.C09.timeouts_general
#print axioms Corerad.Props.TransC09.receiveRetry_backoff_equiv
#print axioms Corerad.Props.TransC09.receiveRetry_loopInit_equiv
#print axioms Corerad.Props.TransC09.receiveRetry_loopPost_equiv
#print axioms Corerad.Props.TransC09.receiveRetry_loopCond_equiv
#print axioms Corerad.Props.TransC09.receiveRetry_exhausted_equiv
