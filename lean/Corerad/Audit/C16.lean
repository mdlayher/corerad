-- REGENERATED by /verif/check: axiom audit of every theorem in Props/C16.lean
import Corerad.Props.C16
import Corerad.Props.TransC16
import Corerad.Props.C16Parse
#print axioms Corerad.Props.C16.gen_epoch_is_start_time
#print axioms Corerad.Props.C16.eq_clamped_remaining
#print axioms Corerad.Props.C16.nonneg
#print axioms Corerad.Props.C16.zero_from_deadline
#print axioms Corerad.Props.C16.pos_before_deadline
#print axioms Corerad.Props.C16.antitone
#print axioms Corerad.Props.C16.mono_lifetime
#print axioms Corerad.Props.C16.pref_le_valid
#print axioms Corerad.Props.C16.not_deprecated_const
#print axioms Corerad.Props.C16.remaining_eq
#print axioms Corerad.Props.C16.before_or_zero
#print axioms Corerad.Props.C16.route_obs_ok
#print axioms Corerad.Props.C16.prefixObsOk_eq
#print axioms Corerad.Props.C16.prefix_obs_ok
#print axioms Corerad.Props.C16.antitone_model_route
#print axioms Corerad.Props.C16.antitone_model_prefix
#print axioms Corerad.Props.C16.holds_route
#print axioms Corerad.Props.C16.holds_prefix
#print axioms Corerad.Props.C16.span_point_route
#print axioms Corerad.Props.C16.prefixSpanOk_eq
#print axioms Corerad.Props.C16.span_point_prefix
#print axioms Corerad.Props.C16.route_span_accepts_any_read
#print axioms Corerad.Props.C16.span_accepts_ordered_reads
#print axioms Corerad.Props.C16.holds_prefix_span
#print axioms Corerad.Props.C16.holds_route_span
#print axioms Corerad.Props.TransC16.prefixLifetimes_equiv
#print axioms Corerad.Props.TransC16.prefixLifetimes_panics_iff
#print axioms Corerad.Props.TransC16.routeLifetime_equiv
#print axioms Corerad.Props.TransC16.routeLifetime_panics_iff
#print axioms Corerad.Props.C16Parse.accepted_prefix_lifetimes
#print axioms Corerad.Props.C16Parse.accepted_route_lifetime
