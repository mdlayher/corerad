-- REGENERATED by /verif/check: axiom audit of every theorem in Props/C02.lean
import Corerad.Props.C02
import Corerad.Props.TransC02
#print axioms Corerad.Props.C02.gen_constants
#print axioms Corerad.Props.C02.gen_maxPref64Lifetime
#print axioms Corerad.Props.C02.gen_mtu
#print axioms Corerad.Props.C02.gen_pref64_scales_duration
#print axioms Corerad.Props.C02.parsePrefix_eq
#print axioms Corerad.Props.C02.parseRoute_eq
#print axioms Corerad.Props.C02.parseRDNSS_eq
#print axioms Corerad.Props.C02.parseDNSSL_eq
#print axioms Corerad.Props.C02.pref64_lifetime_eq
#print axioms Corerad.Props.C02.parsePref64_eq
#print axioms Corerad.Props.C02.parsePlugins_eq
#print axioms Corerad.Props.C02.parsePlainDur_eq
#print axioms Corerad.Props.C02.parseMinInterval_eq
#print axioms Corerad.Props.C02.parseDefaultLifetime_eq
#print axioms Corerad.Props.C02.docAdvertising_eq
#print axioms Corerad.Props.C02.docInterface_adv
#print axioms Corerad.Props.C02.accepted_intervals
#print axioms Corerad.Props.C02.parseInterface_eq
#print axioms Corerad.Props.C02.parsed
#print axioms Corerad.Props.C02.all_const
#print axioms Corerad.Props.C02.parseInterfaces_eq
#print axioms Corerad.Props.C02.expInterface_name
#print axioms Corerad.Props.C02.expStanza_names
#print axioms Corerad.Props.C02.nodupNat_iff
#print axioms Corerad.Props.C02.nodupIP_iff
#print axioms Corerad.Props.C02.seen_step
#print axioms Corerad.Props.C02.namesOk_cons
#print axioms Corerad.Props.C02.parseAll_eq
#print axioms Corerad.Props.C02.namesOk_nil
#print axioms Corerad.Props.C02.parse_eq_spec
#print axioms Corerad.Props.C02.accept_iff
#print axioms Corerad.Props.C02.defaults_exact
#print axioms Corerad.Props.C02.holds_model
#print axioms Corerad.Props.C02.wfPfx_of_isValid
#print axioms Corerad.Props.C02.min_upper_exact
#print axioms Corerad.Props.C02.minUpper_eq
#print axioms Corerad.Props.C02.min_default_table
#print axioms Corerad.Props.C02.parseRoute_eq_needs_wf
#print axioms Corerad.Props.C02.parsePrefix_eq_needs_wf
#print axioms Corerad.Props.C02.parse_eq_spec_needs_wf
#print axioms Corerad.Props.TransC02.minStr_total
#print axioms Corerad.Props.TransC02.parseMinInterval_equiv
#print axioms Corerad.Props.TransC02.parseDefaultLifetime_equiv
#print axioms Corerad.Props.TransC02.durKey_total
#print axioms Corerad.Props.TransC02.parseDuration_equiv
#print axioms Corerad.Props.TransC02.parseDefaultLifetime_parseDuration_equiv
#print axioms Corerad.Props.TransC02.checkLifetime_equiv
#print axioms Corerad.Props.TransC02.parseInterface_equiv
