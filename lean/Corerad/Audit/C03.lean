-- REGENERATED by /verif/check: axiom audit of every theorem in Props/C03.lean
import Corerad.Props.C03
#print axioms Corerad.Props.C03.fits_iff
#print axioms Corerad.Props.C03.wireSafe_iff
#print axioms Corerad.Props.C03.dur_roundtrip
#print axioms Corerad.Props.C03.trunc_eq_self_iff
#print axioms Corerad.Props.C03.dur_roundtrip_exact
#print axioms Corerad.Props.C03.opt_roundtrip
#print axioms Corerad.Props.C03.roundtrip
#print axioms Corerad.Props.C03.encode_trunc_dur
#print axioms Corerad.Props.C03.trunc_nonneg
#print axioms Corerad.Props.C03.trunc_idem
#print axioms Corerad.Props.C03.truncate_meaning
#print axioms Corerad.Props.C03.truncOpt_idem
#print axioms Corerad.Props.C03.truncateRA_idem
#print axioms Corerad.Props.C03.encode_truncate
#print axioms Corerad.Props.C03.canonical_of_masked
#print axioms Corerad.Props.C03.fits_sec32
#print axioms Corerad.Props.C03.fits_lifetimeNow
#print axioms Corerad.Props.C03.inNonneg_bounds
#print axioms Corerad.Props.C03.forall_mem_wildOr
#print axioms Corerad.Props.C03.wild_prefix_canonical
#print axioms Corerad.Props.C03.static_canonical
#print axioms Corerad.Props.C03.prefix_opts_encodable
#print axioms Corerad.Props.C03.wild_route_canonical
#print axioms Corerad.Props.C03.route_opts_encodable
#print axioms Corerad.Props.C03.serverOk_is6
#print axioms Corerad.Props.C03.wild_rdnss_is6
#print axioms Corerad.Props.C03.sortedServers_is6
#print axioms Corerad.Props.C03.rdnss_opts_encodable
#print axioms Corerad.Props.C03.dnssl_opt_encodable
#print axioms Corerad.Props.C03.nat64Len_eq
#print axioms Corerad.Props.C03.pref64Of_canonical
#print axioms Corerad.Props.C03.pref64_opt_encodable
#print axioms Corerad.Props.C03.plainDur_within
#print axioms Corerad.Props.C03.lifetimeOf_fits
#print axioms Corerad.Props.C03.header_wireSafe
#print axioms Corerad.Props.C03.options_encodable
#print axioms Corerad.Props.C03.accepted_wireSafe
#print axioms Corerad.Props.C03.gen_lla_requires_ethernet
#print axioms Corerad.Props.C03.accepted_wireSafe_any_hw
#print axioms Corerad.Props.C03.accepted_roundtrip
#print axioms Corerad.Props.C03.holds_model
#print axioms Corerad.Props.C03.portal_len_needed
#print axioms Corerad.Props.C03.wfVals_needed
#print axioms Corerad.Props.C03.clock_needed
#print axioms Corerad.Props.C03.count_needed
