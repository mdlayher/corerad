-- REGENERATED by /verif/check: axiom audit of every theorem in Props/C08.lean
import Corerad.Props.C08
#print axioms Corerad.Props.C08.gen_facts
#print axioms Corerad.Props.C08.gen_terminate_visible_before_cancel
#print axioms Corerad.Props.C08.gen_send_gate
#print axioms Corerad.Props.C08.gen_all_exits_await
#print axioms Corerad.Props.C08.inv_init
#print axioms Corerad.Props.C08.inv_step
#print axioms Corerad.Props.C08.step_after_final
#print axioms Corerad.Props.C08.after_final
#print axioms Corerad.Props.C08.final_is_last
#print axioms Corerad.Props.C08.no_step_after_return
#print axioms Corerad.Props.C08.nothing_after_return
#print axioms Corerad.Props.C08.final_exactly_once_iff_terminate
#print axioms Corerad.Props.C08.holds_model
#print axioms Corerad.Props.C08.writes_stop_after_cancel_returns
#print axioms Corerad.Props.C08.return_requires_cancel
#print axioms Corerad.Props.C08.unrepaired_witness
