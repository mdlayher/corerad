-- REGENERATED by /verif/check: axiom audit of every theorem in Props/C18.lean
import Corerad.Props.C18
import Corerad.Props.TransC18
#print axioms Corerad.Props.C18.PGauge.series_inj
#print axioms Corerad.Props.C18.PGauge.seriesHost_series
#print axioms Corerad.Props.C18.PGauge.isCounter_series
#print axioms Corerad.Props.C18.outOfScope_invalid
#print axioms Corerad.Props.C18.raGauge_series
#print axioms Corerad.Props.C18.prefixOps_eq
#print axioms Corerad.Props.C18.lastPI?_eq
#print axioms Corerad.Props.C18.lastWrite?_eq
#print axioms Corerad.Props.C18.run_flatMap_gauge
#print axioms Corerad.Props.C18.bump_succ
#print axioms Corerad.Props.C18.run_isSome
#print axioms Corerad.Props.C18.pick_eq_prefixesOf
#print axioms Corerad.Props.C18.run_prefixOps
#print axioms Corerad.Props.C18.mem_prefixOps
#print axioms Corerad.Props.C18.raOps_set
#print axioms Corerad.Props.C18.run_raOps
#print axioms Corerad.Props.C18.eventGauge_received
#print axioms Corerad.Props.C18.run_handle
#print axioms Corerad.Props.C18.run_opsOf_gauge
#print axioms Corerad.Props.C18.run_opsOf_counter
#print axioms Corerad.Props.C18.final_store_eq_expected
#print axioms Corerad.Props.C18.unixSec_floor
#print axioms Corerad.Props.C18.mem_prefixesOf
#print axioms Corerad.Props.C18.never_fails
#print axioms Corerad.Props.C18.never_fails_sequence
#print axioms Corerad.Props.C18.counts_once
#print axioms Corerad.Props.C18.counts_sequence
#print axioms Corerad.Props.C18.flags_set
#print axioms Corerad.Props.C18.default_route_iff
#print axioms Corerad.Props.C18.prefix_write
#print axioms Corerad.Props.C18.per_prefix_four
#print axioms Corerad.Props.C18.prefix_writes_only_from_pi
#print axioms Corerad.Props.C18.per_prefix_store
#print axioms Corerad.Props.C18.lastPI_iff
#print axioms Corerad.Props.C18.non_ra_only_counted
#print axioms Corerad.Props.C18.sequence_step
#print axioms Corerad.Props.C18.sequence_last_write_wins
#print axioms Corerad.Props.C18.label_eq_cidr_iff
#print axioms Corerad.Props.C18.label_eq_invalid_iff
#print axioms Corerad.Props.C18.label_of_wellFormed
#print axioms Corerad.Props.C18.label_injective_of_wellFormed
#print axioms Corerad.Props.C18.malformed_collide
#print axioms Corerad.Props.C18.no_cidr_label_above_128
#print axioms Corerad.Props.C18.per_prefix_four_cidr
#print axioms Corerad.Props.C18.prefix_writes_only_from_pi_cidr
#print axioms Corerad.Props.C18.lastPI_cidr_ignores_malformed
#print axioms Corerad.Props.C18.handle_eq_legacy
#print axioms Corerad.Props.C18.opsOf_eq_legacy
#print axioms Corerad.Props.C18.touched_exact
#print axioms Corerad.Props.C18.holds_iff
#print axioms Corerad.Props.C18.holds_model
#print axioms Corerad.Props.C18.holds_unique
#print axioms Corerad.Props.C18.holds_invalid_only_if_sent
#print axioms Corerad.Props.C18.holds_unique_wellFormed
#print axioms Corerad.Props.TransC18.Monitor_handle_equiv
