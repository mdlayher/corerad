-- REGENERATED by /verif/check: axiom audit of every theorem in Props/C13.lean
import Corerad.Props.C13
import Corerad.Props.TransC13
import Corerad.Props.C13Addresser
#print axioms Corerad.Props.C13.eligible_eq
#print axioms Corerad.Props.C13.mem_iff
#print axioms Corerad.Props.C13.mem_shape
#print axioms Corerad.Props.C13.nodup
#print axioms Corerad.Props.C13.sorted_strict
#print axioms Corerad.Props.C13.ext_invariant
#print axioms Corerad.Props.C13.perm_invariant
#print axioms Corerad.Props.C13.multiplicity_invariant
#print axioms Corerad.Props.C13.holds_model
#print axioms Corerad.Props.C13.uniform_stanza
#print axioms Corerad.Props.C13.wildcard_fails_with_source
#print axioms Corerad.Props.TransC13.goBits_valid
#print axioms Corerad.Props.TransC13.compareInt_le_iff
#print axioms Corerad.Props.TransC13.goBits_beq
#print axioms Corerad.Props.TransC13.Prefix_current_equiv
#print axioms Corerad.Props.TransC13.Prefix_current_error
#print axioms Corerad.Props.C13Addresser.masks_are_bits
#print axioms Corerad.Props.C13Addresser.and_two_pow_ne_zero
#print axioms Corerad.Props.C13Addresser.flags_exact
#print axioms Corerad.Props.C13Addresser.flags_table
#print axioms Corerad.Props.C13Addresser.dumpRes_ok_iff
#print axioms Corerad.Props.C13Addresser.dumpRes_nil_iff
#print axioms Corerad.Props.C13Addresser.dumpRes_panic_iff
#print axioms Corerad.Props.C13Addresser.holds_dumpRes
#print axioms Corerad.Props.C13Addresser.ipOK_eq
#print axioms Corerad.Props.C13Addresser.ipOK_is6
#print axioms Corerad.Props.C13Addresser.addrMsgOK_eq
#print axioms Corerad.Props.C13Addresser.decodeAddrs_eq
#print axioms Corerad.Props.C13Addresser.addrMsgOK_is6
#print axioms Corerad.Props.C13Addresser.addresses_cases
#print axioms Corerad.Props.C13Addresser.ok_iff
#print axioms Corerad.Props.C13Addresser.order_preserved
#print axioms Corerad.Props.C13Addresser.count_exact
#print axioms Corerad.Props.C13Addresser.nil_iff
#print axioms Corerad.Props.C13Addresser.panic_iff
#print axioms Corerad.Props.C13Addresser.entryOf_mkIP
#print axioms Corerad.Props.C13Addresser.zipAll_map
#print axioms Corerad.Props.C13Addresser.holds_model_addrs
#print axioms Corerad.Props.C13Addresser.routeMsgOK_eq
#print axioms Corerad.Props.C13Addresser.decodeRoutes_eq
#print axioms Corerad.Props.C13Addresser.routeMsgOK_is6
#print axioms Corerad.Props.C13Addresser.routes_cases
#print axioms Corerad.Props.C13Addresser.routes_ok_iff
#print axioms Corerad.Props.C13Addresser.routes_exact
#print axioms Corerad.Props.C13Addresser.routeOf_mkRoute
#print axioms Corerad.Props.C13Addresser.zipAllR_map
#print axioms Corerad.Props.C13Addresser.holds_model_routes
#print axioms Corerad.Props.C13Addresser.prefixes_from_dump
#print axioms Corerad.Props.C13Addresser.eligible_mkIP
#print axioms Corerad.Props.C13Addresser.advertised_prefix_iff
#print axioms Corerad.Props.C13Addresser.failing_or_empty_dump
#print axioms Corerad.Props.C13Addresser.rdnss_from_dump
#print axioms Corerad.Props.C13Addresser.routes_from_dump
#print axioms Corerad.Props.C13Addresser.holds_model_routes_doc_strict
#print axioms Corerad.Props.C13Addresser.wellFormedRoute_split
#print axioms Corerad.Props.C13Addresser.zipAllR_doc
#print axioms Corerad.Props.C13Addresser.holds_model_routes_doc
#print axioms Corerad.Props.C13Addresser.wellFormedAddr_split
#print axioms Corerad.Props.C13Addresser.zipAll_doc
#print axioms Corerad.Props.C13Addresser.holds_model_addrs_doc
#print axioms Corerad.Props.C13Addresser.v4mapped_witness
#print axioms Corerad.Props.C13Addresser.peer_witness
#print axioms Corerad.Props.C13Addresser.default_route_witness
