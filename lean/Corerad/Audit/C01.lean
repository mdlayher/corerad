-- REGENERATED by /verif/check: axiom audit of every theorem in Props/C01.lean
import Corerad.Props.C01
import Corerad.Props.TransC01
#print axioms Corerad.Props.C01.prefixLifetimes_eq
#print axioms Corerad.Props.C01.routeLifetime_eq
#print axioms Corerad.Props.C01.prefix_apply
#print axioms Corerad.Props.C01.route_apply
#print axioms Corerad.Props.C01.rdnss_apply
#print axioms Corerad.Props.C01.dnssl_apply
#print axioms Corerad.Props.C01.mtu_apply
#print axioms Corerad.Props.C01.lla_apply
#print axioms Corerad.Props.C01.portal_apply
#print axioms Corerad.Props.C01.pref64_apply
#print axioms Corerad.Props.C01.concatOpts_cons
#print axioms Corerad.Props.C01.applyAll_eq_concat
#print axioms Corerad.Props.C01.concatOpts_append
#print axioms Corerad.Props.C01.applyAll_append
#print axioms Corerad.Props.C01.applyAll_map
#print axioms Corerad.Props.C01.options_eq_spec
#print axioms Corerad.Props.C01.lifetimeOf_bounds
#print axioms Corerad.Props.C01.lifetimeOf_nonneg
#print axioms Corerad.Props.C01.expInterface_lifetime_nonneg
#print axioms Corerad.Props.C01.expectedRA_false
#print axioms Corerad.Props.C01.build_eq
#print axioms Corerad.Props.C01.build_eq_spec
#print axioms Corerad.Props.C01.ra_eq_spec
#print axioms Corerad.Props.C01.parse_then_build
#print axioms Corerad.Props.C01.build_misconfig
#print axioms Corerad.Props.C01.kinds_eq
#print axioms Corerad.Props.C01.sorted_append_replicate
#print axioms Corerad.Props.C01.plugins_order
#print axioms Corerad.Props.C01.count_kinds
#print axioms Corerad.Props.C01.mem_expPlugins
#print axioms Corerad.Props.C01.mtu_iff
#print axioms Corerad.Props.C01.lla_iff
#print axioms Corerad.Props.C01.portal_iff
#print axioms Corerad.Props.C01.gen_append_order
#print axioms Corerad.Props.C01.ceil8s_spec
#print axioms Corerad.Props.C01.pref64Lifetime_eq_ceil8s
#print axioms Corerad.Props.C01.below_cap
#print axioms Corerad.Props.C01.pref64_cap
#print axioms Corerad.Props.C01.pref64_lifetime_ge
#print axioms Corerad.Props.C01.pref64_lifetime_whole_seconds
#print axioms Corerad.Props.C01.pref64_model_formula
#print axioms Corerad.Props.C01.concatOpts_none_iff
#print axioms Corerad.Props.C01.wildOr_eq_none_iff
#print axioms Corerad.Props.C01.prefixOpts_none_iff
#print axioms Corerad.Props.C01.routeOpts_none_iff
#print axioms Corerad.Props.C01.rdnssOpts_eq
#print axioms Corerad.Props.C01.rdnssOpts_none_iff
#print axioms Corerad.Props.C01.sortedServers_length
#print axioms Corerad.Props.C01.expectedOptions_none_iff
#print axioms Corerad.Props.C01.ra_fail_iff
#print axioms Corerad.Props.C01.build_fail_iff
#print axioms Corerad.Props.C01.wildP_iff
#print axioms Corerad.Props.C01.wildR_iff
#print axioms Corerad.Props.C01.holds_model
#print axioms Corerad.Props.C01.holds_model_rej
#print axioms Corerad.Props.C01.ex_expected
#print axioms Corerad.Props.TransC01.NewPREF64_lifetime_equiv_dur
#print axioms Corerad.Props.TransC01.NewPREF64_lifetime_equiv
#print axioms Corerad.Props.TransC01.pref64LifetimeDur_spec
#print axioms Corerad.Props.TransC01.NewPREF64_lifetime_spec
#print axioms Corerad.Props.TransC01.Prefix_Apply_equiv
#print axioms Corerad.Props.TransC01.Route_Apply_equiv
#print axioms Corerad.Props.TransC01.RDNSS_Apply_equiv
#print axioms Corerad.Props.TransC01.Apply_not_prepared
