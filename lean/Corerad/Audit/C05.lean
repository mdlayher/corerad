-- REGENERATED by /verif/check: axiom audit of every theorem in Props/C05.lean
import Corerad.Props.C05
import Corerad.Props.C05Range
import Corerad.Props.TransC05
#print axioms Corerad.Props.C05.gen_constants
#print axioms Corerad.Props.C05.gen_multicastWaitsOnFreshTimer
#print axioms Corerad.Props.C05.chosen_ge
#print axioms Corerad.Props.C05.chosen_le
#print axioms Corerad.Props.C05.delay_cases
#print axioms Corerad.Props.C05.delay_whole_second
#print axioms Corerad.Props.C05.delay_upper
#print axioms Corerad.Props.C05.delay_lower
#print axioms Corerad.Props.C05.delay_initial
#print axioms Corerad.Props.C05.delay_pos
#print axioms Corerad.Props.C05.loop_diverges
#print axioms Corerad.Props.C05Range.truncMul033
#print axioms Corerad.Props.C05Range.mul033_lt
#print axioms Corerad.Props.C05Range.default_min_ge_3s
#print axioms Corerad.Props.C05Range.default_min_is_2s
#print axioms Corerad.Props.C05Range.default_min_below_documented
#print axioms Corerad.Props.C05Range.explicit_2s_rejected
#print axioms Corerad.Props.C05Range.minDefault_range
#print axioms Corerad.Props.C05Range.minUpper_le
#print axioms Corerad.Props.C05Range.minOf_range
#print axioms Corerad.Props.C05Range.accepted_range
#print axioms Corerad.Props.C05Range.accepted_min_ge_3s
#print axioms Corerad.Props.C05Range.accepted_min_pos
#print axioms Corerad.Props.C05Range.accepted_delay_ok
#print axioms Corerad.Props.C05Range.accepted_delay_lower
#print axioms Corerad.Props.C05Range.parsed_range
#print axioms Corerad.Props.C05Range.parsed_monitor
#print axioms Corerad.Props.C05Range.nonvacuous_2s
#print axioms Corerad.Props.TransC05.multicastDelay_equiv
#print axioms Corerad.Props.TransC05.multicastDelay_drawBound_equiv
