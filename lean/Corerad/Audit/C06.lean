-- REGENERATED by /verif/check: axiom audit of every theorem in Props/C06.lean
import Corerad.Props.C06
import Corerad.Props.C06Order
import Corerad.Props.TransC06
#print axioms Corerad.Props.C06.gen_constants
#print axioms Corerad.Props.C06.spaced_cons
#print axioms Corerad.Props.C06.spacing_from
#print axioms Corerad.Props.C06.multicast_spacing
#print axioms Corerad.Props.C06.served_from
#print axioms Corerad.Props.C06.multicast_served
#print axioms Corerad.Props.C06.unicast_only_no_multicast
#print axioms Corerad.Props.C06Order.mc_independent_of_unicast
#print axioms Corerad.Props.C06Order.mc_interleaving_invariant
#print axioms Corerad.Props.C06Order.ucExpected_filter
#print axioms Corerad.Props.C06Order.uc_interleaving_invariant
#print axioms Corerad.Props.TransC06.schedule_mc_equiv
#print axioms Corerad.Props.TransC06.schedule_mc_due
#print axioms Corerad.Props.TransC06.schedule_uc_equiv
