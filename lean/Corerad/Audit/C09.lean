-- REGENERATED by /verif/check: axiom audit of every theorem in Props/C09.lean
import Corerad.Props.C09
import Corerad.Props.TransC09
#print axioms Corerad.Props.C09.gen_constants
#print axioms Corerad.Props.C09.gen_socket_setup
#print axioms Corerad.Props.C09.gen_eq_spec
#print axioms Corerad.Props.C09.listenSrc_eq
#print axioms Corerad.Props.C09.listen_induction
#print axioms Corerad.Props.C09.erase_err
#print axioms Corerad.Props.C09.erase_timeout
#print axioms Corerad.Props.C09.erase_valid
#print axioms Corerad.Props.C09.erase_invalid
#print axioms Corerad.Props.C09.erase_append
#print axioms Corerad.Props.C09.erase_timeouts
#print axioms Corerad.Props.C09.erase_all_invalid
#print axioms Corerad.Props.C09.erase_idem
#print axioms Corerad.Props.C09.erase_no_invalid
#print axioms Corerad.Props.C09.listen_fields
#print axioms Corerad.Props.C09.consumed_running
#print axioms Corerad.Props.C09.messages_only
#print axioms Corerad.Props.C09.never_fails
#print axioms Corerad.Props.C09.valid_all_delivered
#print axioms Corerad.Props.C09.invalid_counted
#print axioms Corerad.Props.C09.erasure
#print axioms Corerad.Props.C09.erased_counts_nothing
#print axioms Corerad.Props.C09.mem_validOf
#print axioms Corerad.Props.C09.invalid_never_delivered
#print axioms Corerad.Props.C09.nothing_valid_nothing_delivered
#print axioms Corerad.Props.C09.erase_eq_inert
#print axioms Corerad.Props.C09.InsertInvalid.erase_eq
#print axioms Corerad.Props.C09.insert_invalid_inert
#print axioms Corerad.Props.C09.insert_block_inert
#print axioms Corerad.Props.C09.hasRun_iff_infix
#print axioms Corerad.Props.C09.hasTimeoutRun_iff
#print axioms Corerad.Props.C09.not_prefix_row
#print axioms Corerad.Props.C09.hasTimeoutRun_row
#print axioms Corerad.Props.C09.hasTimeoutRun_cons
#print axioms Corerad.Props.C09.beforeErr_err
#print axioms Corerad.Props.C09.beforeErr_cons
#print axioms Corerad.Props.C09.beforeErr_append
#print axioms Corerad.Props.C09.beforeErr_not_mem
#print axioms Corerad.Props.C09.beforeErr_of_not_mem
#print axioms Corerad.Props.C09.eq_beforeErr_append
#print axioms Corerad.Props.C09.hasRun_beforeErr
#print axioms Corerad.Props.C09.expectedResultN_row
#print axioms Corerad.Props.C09.row_succ
#print axioms Corerad.Props.C09.result_eq_expected_at
#print axioms Corerad.Props.C09.result_eq_expected
#print axioms Corerad.Props.C09.expectedResultN_cases
#print axioms Corerad.Props.C09.exhausted_iff_at
#print axioms Corerad.Props.C09.exhausted_iff
#print axioms Corerad.Props.C09.readError_iff
#print axioms Corerad.Props.C09.running_iff
#print axioms Corerad.Props.C09.consumed_le
#print axioms Corerad.Props.C09.take_consumed
#print axioms Corerad.Props.C09.consumed_least
#print axioms Corerad.Props.C09.model_eq_expected
#print axioms Corerad.Props.C09.holds_iff
#print axioms Corerad.Props.C09.holds_model
#print axioms Corerad.Props.C09.holds_unique
#print axioms Corerad.Props.C09.holds_messagesOnly
#print axioms Corerad.Props.C09.failedClause_iff
#print axioms Corerad.Props.C09.src_erasure
#print axioms Corerad.Props.C09.src_invalid_never_delivered
#print axioms Corerad.Props.C09.src_insert_invalid_inert
#print axioms Corerad.Props.C09.src_exhausted_iff
#print axioms Corerad.Props.C09.src_never_fails
#print axioms Corerad.Props.C09.invalid_inert
#print axioms Corerad.Props.C09.timeouts_retried
#print axioms Corerad.Props.C09.timeouts_general
#print axioms Corerad.Props.TransC09.receiveRetry_backoff_equiv
#print axioms Corerad.Props.TransC09.receiveRetry_loopInit_equiv
#print axioms Corerad.Props.TransC09.receiveRetry_loopPost_equiv
#print axioms Corerad.Props.TransC09.receiveRetry_loopCond_equiv
#print axioms Corerad.Props.TransC09.receiveRetry_exhausted_equiv
