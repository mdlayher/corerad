-- REGENERATED by /verif/check: axiom audit of every theorem in Props/C04.lean
import Corerad.Props.C04
import Corerad.Props.C04Paths
import Corerad.Props.C11Sysctl
import Corerad.Props.TransC04
#print axioms Corerad.Props.C04.ra_some
#print axioms Corerad.Props.C04.fail_indep
#print axioms Corerad.Props.C04.nofwd_none_iff
#print axioms Corerad.Props.C04.nofwd_lifetime_nonpos
#print axioms Corerad.Props.C04.nofwd_lifetime_zero
#print axioms Corerad.Props.C04.nofwd_eq_fwd_zeroed
#print axioms Corerad.Props.C04.nofwd_rest_unchanged
#print axioms Corerad.Props.C04.misconfig_iff
#print axioms Corerad.Props.C04.fwd_exact
#print axioms Corerad.Props.C04.fwd_whole
#print axioms Corerad.Props.C04.parsed_lifetime_nonneg
#print axioms Corerad.Props.C04.gen_buildRAReadsForwarding
#print axioms Corerad.Props.C04.gen_sendCalls_buildRA
#print axioms Corerad.Props.C04.gen_handleCalls_buildRA
#print axioms Corerad.Props.C04.gen_sendWorkerCalls_send
#print axioms Corerad.Props.C04.gen_shutdownCalls_send
#print axioms Corerad.Props.C04.gen_scrapeReadsForwarding
#print axioms Corerad.Props.C04.gen_apiReadsForwarding
#print axioms Corerad.Props.C04.gen_raCallSites
#print axioms Corerad.Props.C04.every_path_reads_forwarding
#print axioms Corerad.Props.C04.run_length
#print axioms Corerad.Props.C04.run_tracks
#print axioms Corerad.Props.C04.paths_track
#print axioms Corerad.Props.C04.never_default_router_while_not_forwarding
#print axioms Corerad.Props.C04.holds_model
#print axioms Corerad.Props.C04Paths.runOps_tracks
#print axioms Corerad.Props.C04Paths.generate_spec
#print axioms Corerad.Props.C04Paths.not_forwarding_lifetime_zero
#print axioms Corerad.Props.C04Paths.fwAfter_congr
#print axioms Corerad.Props.C04Paths.other_interfaces_irrelevant
#print axioms Corerad.Props.C11Sysctl.read_after_write
#print axioms Corerad.Props.C11Sysctl.write_keeps_forwarding
#print axioms Corerad.Props.C11Sysctl.bracket_restores
#print axioms Corerad.Props.C11Sysctl.readBool_some
#print axioms Corerad.Props.C11Sysctl.read_true_iff
#print axioms Corerad.Props.C11Sysctl.read_false_iff
#print axioms Corerad.Props.C11Sysctl.read_error_iff
#print axioms Corerad.Props.TransC04.foldlM_applyTo
#print axioms Corerad.Props.TransC04.Interface_RouterAdvertisement_equiv
#print axioms Corerad.Props.TransC04.translated_lifetime_rule
