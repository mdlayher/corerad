-- REGENERATED by /verif/check: axiom audit of every theorem in Props/C12.lean
import Corerad.Props.C12
import Corerad.Props.TransC12
#print axioms Corerad.Props.C12.ite_not_or_nil
#print axioms Corerad.Props.C12.checkPrefixOuter_eq_flatMap
#print axioms Corerad.Props.C12.checkRouteOuter_eq_flatMap
#print axioms Corerad.Props.C12.checkDNSPairs_eq_flatMap
#print axioms Corerad.Props.C12.checkDurations_eq
#print axioms Corerad.Props.C12.hopDiffers_iff
#print axioms Corerad.Props.C12.hopDiffers_self
#print axioms Corerad.Props.C12.timerDiffers_iff
#print axioms Corerad.Props.C12.checkRAs_eq
#print axioms Corerad.Props.C12.checkMTUs_eq
#print axioms Corerad.Props.C12.checkCaptivePortal_eq
#print axioms Corerad.Props.C12.checkPrefixes_eq
#print axioms Corerad.Props.C12.checkRoutes_eq
#print axioms Corerad.Props.C12.checkDNS_eq
#print axioms Corerad.Props.C12.verify_eq_spec
#print axioms Corerad.Props.C12.holds_model
#print axioms Corerad.Props.C12.hook_iff
#print axioms Corerad.Props.C12.reports_are_spec
#print axioms Corerad.Props.C12.header_fields
#print axioms Corerad.Props.C12.prefix_fields
#print axioms Corerad.Props.C12.route_fields
#print axioms Corerad.Props.C12.dns_fields
#print axioms Corerad.Props.C12.reported_specified
#print axioms Corerad.Props.C12.absent_silent
#print axioms Corerad.Props.C12.unspecified_hop_limit_consistent
#print axioms Corerad.Props.C12.self_inconsistent_witness
#print axioms Corerad.Props.C12.verify_refl
#print axioms Corerad.Props.C12.sec_nonneg
#print axioms Corerad.Props.C12.msec_nonneg
#print axioms Corerad.Props.C12.pick_nonneg
#print axioms Corerad.Props.C12.nonneg_of_wireSafe
#print axioms Corerad.Props.C12.verify_trunc
#print axioms Corerad.Props.C12.verify_roundtrip
#print axioms Corerad.Props.TransC12.checkDurations_equiv
#print axioms Corerad.Props.TransC12.equalLifetimes_equiv
#print axioms Corerad.Props.TransC12.not_equalLifetimes_iff
#print axioms Corerad.Props.TransC12.not_checkDurations_ms
#print axioms Corerad.Props.TransC12.gen_merge_order
#print axioms Corerad.Props.TransC12.gen_problem_labels
#print axioms Corerad.Props.TransC12.gen_fields
#print axioms Corerad.Props.TransC12.gen_fields_each
#print axioms Corerad.Props.TransC12.gen_details
#print axioms Corerad.Props.TransC12.gen_checkRAs_guards
#print axioms Corerad.Props.TransC12.gen_guards
#print axioms Corerad.Props.TransC12.gen_pick_skeletons
#print axioms Corerad.Props.TransC12.allFields_complete
#print axioms Corerad.Props.TransC12.label_code
#print axioms Corerad.Props.TransC12.label_injective
#print axioms Corerad.Props.TransC12.gen_fields_label
#print axioms Corerad.Props.TransC12.gen_fields_model
#print axioms Corerad.Props.TransC12.gen_fields_union
#print axioms Corerad.Props.TransC12.checkRAs_labels
#print axioms Corerad.Props.TransC12.checkMTUs_labels
#print axioms Corerad.Props.TransC12.checkCaptivePortal_labels
#print axioms Corerad.Props.TransC12.checkPrefixes_labels
#print axioms Corerad.Props.TransC12.checkRoutes_labels
#print axioms Corerad.Props.TransC12.checkRDNSS_labels
#print axioms Corerad.Props.TransC12.checkDNSSL_labels
#print axioms Corerad.Props.TransC12.verifyRAs_labels
#print axioms Corerad.Props.TransC12.every_field_reachable
#print axioms Corerad.Props.TransC12.every_label_reachable
#print axioms Corerad.Props.TransC12.checkRAs_equiv
#print axioms Corerad.Props.TransC12.checkMTUs_equiv
#print axioms Corerad.Props.TransC12.checkCaptivePortal_equiv
#print axioms Corerad.Props.TransC12.checkPrefixes_equiv
#print axioms Corerad.Props.TransC12.checkRoutes_equiv
#print axioms Corerad.Props.TransC12.checkRDNSS_equiv
#print axioms Corerad.Props.TransC12.checkDNSSL_equiv
#print axioms Corerad.Props.TransC12.verifyRAs_regenerated
