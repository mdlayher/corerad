-- REGENERATED by /verif/check: axiom audit of every theorem in Props/C20.lean
import Corerad.Props.C20
import Corerad.Props.C20Serve
#print axioms Corerad.Props.C20.gen_build_wiring
#print axioms Corerad.Props.C20.gen_main_serves_built_tasks
#print axioms Corerad.Props.C20.gen_setBeforeCancel
#print axioms Corerad.Props.C20.gen_notifyBeforeCancel
#print axioms Corerad.Props.C20.gen_termIsIsTerminal
#print axioms Corerad.Props.C20.gen_isTerminalExpr
#print axioms Corerad.Props.C20.gen_serveWaitsAll
#print axioms Corerad.Props.C20.gen_serveAttempts
#print axioms Corerad.Props.C20.tasks_exact
#print axioms Corerad.Props.C20.tasks_count
#print axioms Corerad.Props.C20.tasks_per_interface
#print axioms Corerad.Props.C20.fail_cancels_all
#print axioms Corerad.Props.C20.cancelled_enables_observe
#print axioms Corerad.Props.C20.observe_has_cause
#print axioms Corerad.Props.C20.return_after_all
#print axioms Corerad.Props.C20.first_error_returned
#print axioms Corerad.Props.C20.serve_returns_once
#print axioms Corerad.Props.C20.terminal_iff_not_sighup
#print axioms Corerad.Props.C20.set_records_terminal
#print axioms Corerad.Props.C20.set_before_cancel
#print axioms Corerad.Props.C20.term_before_cancel
#print axioms Corerad.Props.C20.signal_success
#print axioms Corerad.Props.C20.ready_after_all
#print axioms Corerad.Props.C20.lts_safe
#print axioms Corerad.Props.C20.observed_safe
#print axioms Corerad.Props.C20.acceptsObs_sound
#print axioms Corerad.Props.C20.accepted_safe
#print axioms Corerad.Props.C20Serve.gen_attempts
#print axioms Corerad.Props.C20Serve.loop_calls_le
#print axioms Corerad.Props.C20Serve.calls_le
#print axioms Corerad.Props.C20Serve.attempt_not_cancelled
#print axioms Corerad.Props.C20Serve.loop_no_call_after_cancel
#print axioms Corerad.Props.C20Serve.no_call_after_cancel
#print axioms Corerad.Props.C20Serve.cancelled_at_start
#print axioms Corerad.Props.C20Serve.loop_all_opErr
#print axioms Corerad.Props.C20Serve.gives_up_after_attempts
