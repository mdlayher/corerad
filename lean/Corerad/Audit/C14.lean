-- REGENERATED by /verif/check: axiom audit of every theorem in Props/C14.lean
import Corerad.Props.C14
import Corerad.Props.TransC14
import Corerad.Props.C13Addresser
#print axioms Corerad.Props.C14.gen_ranking
#print axioms Corerad.Props.C14.eligible_eq
#print axioms Corerad.Props.C14.rankLoop_eq
#print axioms Corerad.Props.C14.addrClass_eq
#print axioms Corerad.Props.C14.addrClass_le
#print axioms Corerad.Props.C14.compare_rank
#print axioms Corerad.Props.C14.better_lex
#print axioms Corerad.Props.C14.better_is_min
#print axioms Corerad.Props.C14.addr_eq_of_rank_eq
#print axioms Corerad.Props.C14.fold_min
#print axioms Corerad.Props.C14.current_spec
#print axioms Corerad.Props.C14.none_iff
#print axioms Corerad.Props.C14.some_iff
#print axioms Corerad.Props.C14.ext_invariant
#print axioms Corerad.Props.C14.perm_invariant
#print axioms Corerad.Props.C14.apply_shape
#print axioms Corerad.Props.C14.holds_model
#print axioms Corerad.Props.TransC14.isStable_equiv
#print axioms Corerad.Props.TransC14.betterRDNSS_equiv
#print axioms Corerad.Props.TransC14.betterRDNSS_full_equiv
#print axioms Corerad.Props.TransC14.betterRDNSS_cases
#print axioms Corerad.Props.TransC14.betterRDNSS_selects
#print axioms Corerad.Props.TransC14.gen_better_classes
#print axioms Corerad.Props.TransC14.gen_isStable
#print axioms Corerad.Props.TransC14.RDNSS_current_equiv_gen
#print axioms Corerad.Props.TransC14.RDNSS_current_equiv
#print axioms Corerad.Props.TransC14.RDNSS_current_error
#print axioms Corerad.Props.C13Addresser.masks_are_bits
#print axioms Corerad.Props.C13Addresser.and_two_pow_ne_zero
#print axioms Corerad.Props.C13Addresser.flags_exact
#print axioms Corerad.Props.C13Addresser.flags_table
#print axioms Corerad.Props.C13Addresser.dumpRes_ok_iff
#print axioms Corerad.Props.C13Addresser.dumpRes_nil_iff
#print axioms Corerad.Props.C13Addresser.dumpRes_panic_iff
#print axioms Corerad.Props.C13Addresser.holds_dumpRes
#print axioms Corerad.Props.C13Addresser.ipOK_eq
#print axioms Corerad.Props.C13Addresser.ipOK_is6
#print axioms Corerad.Props.C13Addresser.addrMsgOK_eq
#print axioms Corerad.Props.C13Addresser.decodeAddrs_eq
#print axioms Corerad.Props.C13Addresser.addrMsgOK_is6
#print axioms Corerad.Props.C13Addresser.addresses_cases
#print axioms Corerad.Props.C13Addresser.ok_iff
#print axioms Corerad.Props.C13Addresser.order_preserved
#print axioms Corerad.Props.C13Addresser.count_exact
#print axioms Corerad.Props.C13Addresser.nil_iff
#print axioms Corerad.Props.C13Addresser.panic_iff
#print axioms Corerad.Props.C13Addresser.entryOf_mkIP
#print axioms Corerad.Props.C13Addresser.zipAll_map
#print axioms Corerad.Props.C13Addresser.holds_model_addrs
#print axioms Corerad.Props.C13Addresser.routeMsgOK_eq
#print axioms Corerad.Props.C13Addresser.decodeRoutes_eq
#print axioms Corerad.Props.C13Addresser.routeMsgOK_is6
#print axioms Corerad.Props.C13Addresser.routes_cases
#print axioms Corerad.Props.C13Addresser.routes_ok_iff
#print axioms Corerad.Props.C13Addresser.routes_exact
#print axioms Corerad.Props.C13Addresser.routeOf_mkRoute
#print axioms Corerad.Props.C13Addresser.zipAllR_map
#print axioms Corerad.Props.C13Addresser.holds_model_routes
#print axioms Corerad.Props.C13Addresser.prefixes_from_dump
#print axioms Corerad.Props.C13Addresser.eligible_mkIP
#print axioms Corerad.Props.C13Addresser.advertised_prefix_iff
#print axioms Corerad.Props.C13Addresser.failing_or_empty_dump
#print axioms Corerad.Props.C13Addresser.rdnss_from_dump
#print axioms Corerad.Props.C13Addresser.routes_from_dump
#print axioms Corerad.Props.C13Addresser.holds_model_routes_doc_strict
#print axioms Corerad.Props.C13Addresser.wellFormedRoute_split
#print axioms Corerad.Props.C13Addresser.zipAllR_doc
#print axioms Corerad.Props.C13Addresser.holds_model_routes_doc
#print axioms Corerad.Props.C13Addresser.wellFormedAddr_split
#print axioms Corerad.Props.C13Addresser.zipAll_doc
#print axioms Corerad.Props.C13Addresser.holds_model_addrs_doc
#print axioms Corerad.Props.C13Addresser.v4mapped_witness
#print axioms Corerad.Props.C13Addresser.peer_witness
#print axioms Corerad.Props.C13Addresser.default_route_witness
