-- REGENERATED by /verif/check: axiom audit of every theorem in Props/C17.lean
import Corerad.Props.C17
#print axioms Corerad.Props.C17.gen_main_wiring
#print axioms Corerad.Props.C17.gen_unprepared_guarded
#print axioms Corerad.Props.C17.gen_pack_kinds
#print axioms Corerad.Props.C17.gen_collect_kinds
#print axioms Corerad.Props.C17.gen_gated
#print axioms Corerad.Props.C17.gen_reads_forwarding
#print axioms Corerad.Props.C17.gen_src_sound
#print axioms Corerad.Props.C17.nilOutcome_follows
#print axioms Corerad.Props.C17.nilCall_follows
#print axioms Corerad.Props.C17.nilCall_none
#print axioms Corerad.Props.C17.applyPlugin_unprepared
#print axioms Corerad.Props.C17.applyPlugin_follows
#print axioms Corerad.Props.C17.applyAllR_follows
#print axioms Corerad.Props.C17.routerAdvertisementR_follows
#print axioms Corerad.Props.C17.scrapeIface_follows
#print axioms Corerad.Props.C17.mirrorAll_cons
#print axioms Corerad.Props.C17.gather_eq
#print axioms Corerad.Props.C17.scrape_follows
#print axioms Corerad.Props.C17.scrape_total_of
#print axioms Corerad.Props.C17.scrape_total
#print axioms Corerad.Props.C17.scrape_total_initialised
#print axioms Corerad.Props.C17.unguarded_panics_iff
#print axioms Corerad.Props.C17.unguarded_minimal_panics
#print axioms Corerad.Props.C17.scrape_mirrors
#print axioms Corerad.Props.C17.scrape_ok_iff_initialised
#print axioms Corerad.Props.C17.optSamples_all
#print axioms Corerad.Props.C17.optSamples_count
#print axioms Corerad.Props.C17.gauges_reported
#print axioms Corerad.Props.C17.optSamples_family
#print axioms Corerad.Props.C17.gauges_family
#print axioms Corerad.Props.C17.misconfig_family
#print axioms Corerad.Props.C17.misconfiguration_iff
#print axioms Corerad.Props.C17.renders_all
#print axioms Corerad.Props.C17.accum_empty
#print axioms Corerad.Props.C17.getLast?_or_some
#print axioms Corerad.Props.C17.packOpt_eq
#print axioms Corerad.Props.C17.packFrom_eq
#print axioms Corerad.Props.C17.packFrom_ne_error
#print axioms Corerad.Props.C17.json_covers_all_kinds_of
#print axioms Corerad.Props.C17.json_covers_all_kinds
#print axioms Corerad.Props.C17.pref64_unhandled_panics
#print axioms Corerad.Props.C17.packRA_eq
#print axioms Corerad.Props.C17.apply_optOK
#print axioms Corerad.Props.C17.renders_of_ifaceOK
#print axioms Corerad.Props.C17.apiIface_follows
#print axioms Corerad.Props.C17.mirrorApi_cons
#print axioms Corerad.Props.C17.api_follows
#print axioms Corerad.Props.C17.api_total_of
#print axioms Corerad.Props.C17.api_total
#print axioms Corerad.Props.C17.api_mirrors
#print axioms Corerad.Props.C17.prefOK_parsePreference
#print axioms Corerad.Props.C17.parseRoute_ok
#print axioms Corerad.Props.C17.parsePrefix_ok
#print axioms Corerad.Props.C17.parseRDNSS_ok
#print axioms Corerad.Props.C17.parseDNSSL_ok
#print axioms Corerad.Props.C17.parsePref64_ok
#print axioms Corerad.Props.C17.parsePlugins_ok
#print axioms Corerad.Props.C17.parseInterface_ok
#print axioms Corerad.Props.C17.parseInterfaces_ok
#print axioms Corerad.Props.C17.parseAll_ok
#print axioms Corerad.Props.C17.accepted_ifaceOK
#print axioms Corerad.Props.C17.accepted_total
#print axioms Corerad.Props.C17.gating_of
#print axioms Corerad.Props.C17.gating
#print axioms Corerad.Props.C17.ungated_served
#print axioms Corerad.Props.C17.sameSeries_iff
#print axioms Corerad.Props.C17.sameSeries_false_of_family
#print axioms Corerad.Props.C17.hasDup_false_iff
#print axioms Corerad.Props.C17.hasDup_append
#print axioms Corerad.Props.C17.not_pairwise_false_iff
#print axioms Corerad.Props.C17.hasDup_iff
#print axioms Corerad.Props.C17.dup_labels_fail
#print axioms Corerad.Props.C17.gather_ok_iff
#print axioms Corerad.Props.C17.optSamples_self
#print axioms Corerad.Props.C17.optSamples_cross
#print axioms Corerad.Props.C17.options_dup_iff
#print axioms Corerad.Props.C17.collect_dup_iff
#print axioms Corerad.Props.C17.collect_none_nodup
#print axioms Corerad.Props.C17.collect_ifaceOf
#print axioms Corerad.Props.C17.mirrorIface_ifaceOf
#print axioms Corerad.Props.C17.mirrorAll_cons_eq_some
#print axioms Corerad.Props.C17.mirrorAll_ifaceOf
#print axioms Corerad.Props.C17.scrape_dup_iff
#print axioms Corerad.Props.C17.optionsOf_eq_apply
#print axioms Corerad.Props.C17.expectedOptions_eq
#print axioms Corerad.Props.C17.expectedRA_eq
#print axioms Corerad.Props.C17.collect_eq_spec
#print axioms Corerad.Props.C17.wantOf_seq
#print axioms Corerad.Props.C17.wantIfaceSamples_eq
#print axioms Corerad.Props.C17.wantSamples_eq
#print axioms Corerad.Props.C17.model_meets_oracle
