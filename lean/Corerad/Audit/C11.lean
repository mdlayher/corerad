-- REGENERATED by /verif/check: axiom audit of every theorem in Props/C11.lean
import Corerad.Props.C11
import Corerad.Props.C11Sysctl
#print axioms Corerad.Props.C11.gen_no_leak
#print axioms Corerad.Props.C11.gen_doneCalls
#print axioms Corerad.Props.C11.bracket_of_no_leak
#print axioms Corerad.Props.C11.bracket
#print axioms Corerad.Props.C11.bracket_fails_when_leaking
#print axioms Corerad.Props.C11.bracket_fails_when_leaking_retry
#print axioms Corerad.Props.C11.autoconf_disabled_only_while_held
#print axioms Corerad.Props.C11.restore_value
#print axioms Corerad.Props.C11.restore_errors
#print axioms Corerad.Props.C11.restored_on_every_exit
#print axioms Corerad.Props.C11.restored_of_no_set_fault
#print axioms Corerad.Props.C11.holds_model
#print axioms Corerad.Props.C11Sysctl.read_after_write
#print axioms Corerad.Props.C11Sysctl.write_keeps_forwarding
#print axioms Corerad.Props.C11Sysctl.bracket_restores
#print axioms Corerad.Props.C11Sysctl.readBool_some
#print axioms Corerad.Props.C11Sysctl.read_true_iff
#print axioms Corerad.Props.C11Sysctl.read_false_iff
#print axioms Corerad.Props.C11Sysctl.read_error_iff
