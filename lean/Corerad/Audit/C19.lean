-- REGENERATED by /verif/check: axiom audit of every theorem in Props/C19.lean
import Corerad.Props.C19
import Corerad.Props.C19Process
#print axioms Corerad.Props.C19.gen_subscriberBuf
#print axioms Corerad.Props.C19.gen_bits
#print axioms Corerad.Props.C19.gen_linkAny
#print axioms Corerad.Props.C19.gen_notifySendHasDefault
#print axioms Corerad.Props.C19.gen_closeUnderLockInDefer
#print axioms Corerad.Props.C19.gen_notify_no_nested_lock
#print axioms Corerad.Props.C19.gen_notifyMaskTest
#print axioms Corerad.Props.C19.delivered_iff
#print axioms Corerad.Props.C19.not_delivered
#print axioms Corerad.Props.C19.overflow_dropped
#print axioms Corerad.Props.C19.notifyChange_pointwise
#print axioms Corerad.Props.C19.buffer_bounded
#print axioms Corerad.Props.C19.buffer_bounded_step
#print axioms Corerad.Props.C19.order_preserved
#print axioms Corerad.Props.C19.order_exact
#print axioms Corerad.Props.C19.order_exact_of_le_8
#print axioms Corerad.Props.C19.notify_frame
#print axioms Corerad.Props.C19.not_closed_before
#print axioms Corerad.Props.C19.closed_exactly_once
#print axioms Corerad.Props.C19.single_use
#print axioms Corerad.Props.C19.close_keeps_buffers
#print axioms Corerad.Props.C19.wf_true_no_end
#print axioms Corerad.Props.C19.wf_of_append
#print axioms Corerad.Props.C19.wf_shape
#print axioms Corerad.Props.C19.never_closed_twice
#print axioms Corerad.Props.C19.mask_table
#print axioms Corerad.Props.C19.holds_model
#print axioms Corerad.Props.C19Process.mapping_eq_table
#print axioms Corerad.Props.C19Process.operStateChange_mem
#print axioms Corerad.Props.C19Process.mapping_total_on_known
#print axioms Corerad.Props.C19Process.mapping_table
#print axioms Corerad.Props.C19Process.mapping_injective
#print axioms Corerad.Props.C19Process.mapping_nonzero
#print axioms Corerad.Props.C19Process.contrib_eq
#print axioms Corerad.Props.C19Process.changesFor_cons
#print axioms Corerad.Props.C19Process.lookup_addChange
#print axioms Corerad.Props.C19Process.keys_addChange
#print axioms Corerad.Props.C19Process.mem_keys_of_lookup
#print axioms Corerad.Props.C19Process.lookup_of_mem
#print axioms Corerad.Props.C19Process.good_addChange
#print axioms Corerad.Props.C19Process.good_stepMsg
#print axioms Corerad.Props.C19Process.lookup_stepMsg
#print axioms Corerad.Props.C19Process.process_good
#print axioms Corerad.Props.C19Process.process_exact
#print axioms Corerad.Props.C19Process.process_count
#print axioms Corerad.Props.C19Process.mem_keys_iff
#print axioms Corerad.Props.C19Process.keys_canon_strict
#print axioms Corerad.Props.C19Process.holds_model
#print axioms Corerad.Props.C19Process.offeredSet_of_good
#print axioms Corerad.Props.C19Process.process_offers
#print axioms Corerad.Props.C19Process.process_notify_general
#print axioms Corerad.Props.C19Process.process_notify_delivers
#print axioms Corerad.Props.C19Process.process_notify_exact
#print axioms Corerad.Props.C19Process.matching_single_bit
