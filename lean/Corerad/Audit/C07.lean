-- REGENERATED by /verif/check: axiom audit of every theorem in Props/C07.lean
import Corerad.Props.C07
import Corerad.Props.C06Order
import Corerad.Props.TransC07
#print axioms Corerad.Props.C07.gen_constants
#print axioms Corerad.Props.C07.unicast_exactly_once
#print axioms Corerad.Props.C07.unicast_count
#print axioms Corerad.Props.C07.delay_in_window
#print axioms Corerad.Props.C07.request_destination
#print axioms Corerad.Props.C07.unicast_only_no_multicast
#print axioms Corerad.Props.C07.countStep_eq
#print axioms Corerad.Props.C07.getElem!_bump
#print axioms Corerad.Props.C07.length_bump
#print axioms Corerad.Props.C07.countKind_cons
#print axioms Corerad.Props.C07.counters_from
#print axioms Corerad.Props.C07.counters_exact
#print axioms Corerad.Props.C06Order.mc_independent_of_unicast
#print axioms Corerad.Props.C06Order.mc_interleaving_invariant
#print axioms Corerad.Props.C06Order.ucExpected_filter
#print axioms Corerad.Props.C06Order.uc_interleaving_invariant
#print axioms Corerad.Props.TransC07.handle_equiv
#print axioms Corerad.Props.TransC07.handle_responds
#print axioms Corerad.Props.TransC07.handle_counts
#print axioms Corerad.Props.TransC07.handle_reports
