/-
  Router advertisements as CoreRAD builds them (`ndp.RouterAdvertisement` restricted to the
  fields and option kinds CoreRAD can produce), parsed plugins, and
  `config.Interface.RouterAdvertisement` (internal/config/config.go) with the plugins'
  `Apply` methods (internal/plugin/plugin.go).

  Strings whose content is irrelevant to the logic (interface names, DNS search domains,
  captive-portal URIs) are interned by the harness and appear as `Nat` ids; a URI also
  carries its byte length because encodability depends on it.
-/
import Corerad.Basic
import Corerad.Model.Wild
import Corerad.Model.Lifetime

namespace Corerad.Model

open Corerad

/-- `ndp.Preference` wire values: Medium = 0, High = 1, (2 reserved), Low = 3. -/
def prefMedium : Nat := 0
def prefHigh : Nat := 1
def prefLow : Nat := 3

/-- an NDP option CoreRAD can advertise -/
inductive Opt where
  | pi (addr : IP) (len : Nat) (onLink autonomous : Bool) (valid preferred : Dur)
  | ri (addr : IP) (len : Nat) (preference : Nat) (lifetime : Dur)
  | rdnss (lifetime : Dur) (servers : List IP)
  | dnssl (lifetime : Dur) (names : List Nat)
  | mtu (mtu : Int)
  | lla (macLen : Nat) (mac : Nat)
  | captivePortal (uri : Nat) (uriLen : Nat)
  | pref64 (pfx : Prefix) (lifetime : Dur)
deriving DecidableEq, Repr, Inhabited

structure RA where
  hopLimit : Nat := 0
  managed : Bool := false
  other : Bool := false
  preference : Nat := 0
  routerLifetime : Dur := 0
  reachable : Dur := 0
  retransmit : Dur := 0
  options : List Opt := []
deriving DecidableEq, Repr, Inhabited

/-- a parsed plugin (`plugin.Plugin` implementations with their configuration fields) -/
inductive Plugin where
  | pfx (auto : Bool) (p : Prefix) (onLink autonomous : Bool) (valid preferred : Dur) (deprecated : Bool)
  | route (auto : Bool) (p : Prefix) (preference : Nat) (lifetime : Dur) (deprecated : Bool)
  | rdnss (auto : Bool) (lifetime : Dur) (servers : List IP)
  | dnssl (lifetime : Dur) (names : List Nat)
  | mtu (mtu : Int)
  | lla
  | captivePortal (uri : Nat) (uriLen : Nat)
  | pref64 (p : Prefix) (lifetime : Dur)
deriving DecidableEq, Repr, Inhabited

/-- rank of a plugin kind in the documented option order -/
def Plugin.kind : Plugin → Nat
  | .pfx .. => 0 | .route .. => 1 | .rdnss .. => 2 | .dnssl .. => 3
  | .mtu .. => 4 | .lla => 5 | .captivePortal .. => 6 | .pref64 .. => 7

/-- `config.Interface` -/
structure Interface where
  name : Nat := 0
  monitor : Bool := false
  advertise : Bool := false
  verbose : Bool := false
  minInterval : Dur := 0
  maxInterval : Dur := 0
  managed : Bool := false
  otherConfig : Bool := false
  reachable : Dur := 0
  retransmit : Dur := 0
  hopLimit : Nat := 0
  defaultLifetime : Dur := 0
  unicastOnly : Bool := false
  preference : Nat := 0
  plugins : List Plugin := []
deriving DecidableEq, Repr, Inhabited

/-- The system state an RA build reads: interface addresses and loopback routes (`none` = the
    source failed), hardware address (`none` = nil, as on point-to-point links), the clock,
    and the daemon's epoch. -/
structure SysState where
  addrs : Option (List SysIP) := some []
  routes : Option (List Prefix) := some []
  mac : Option (Nat × Nat) := none      -- (length in bytes, value)
  now : Time := 0
  epoch : Time := 0
deriving Repr, Inhabited

/-- the hardware address as the `source_lla` plugin sees it: the Source Link-Layer Address option
    can only carry a 48-bit address (`ndp.LinkLayerAddress` encodes nothing else), so an interface
    whose hardware address has another length (IP-in-IP and GRE tunnels: 4 or 16 bytes, IPoIB: 20,
    IEEE 1394 / 802.15.4: 8) is, for that plugin, an interface without one. `handled` records
    whether the source treats it so (regenerated: `Gen.Plugin.llaRequiresEthernet`); the pinned
    tree appended the option regardless and no RA could be encoded — finding F-19. -/
def normSys (handled : Bool) (sys : SysState) : SysState :=
  if handled then { sys with mac := sys.mac.filter (fun p => p.1 == 6) } else sys

/-- `Plugin.Apply`: the options appended to the RA, or `none` when Apply returns an error. -/
def Plugin.apply (sys : SysState) : Plugin → Option (List Opt)
  | .pfx auto p onLink autonomous valid pref dep =>
    let (v, pr) := prefixLifetimes dep sys.epoch valid pref sys.now
    if !auto then some [.pi p.addr p.bits onLink autonomous v pr]
    else match sys.addrs with
      | none => none
      | some as => some ((currentPrefixes p.bits as).map fun q => .pi q.addr q.bits onLink autonomous v pr)
  | .route auto p preference lifetime dep =>
    let lt := routeLifetime dep sys.epoch lifetime sys.now
    if !auto then some [.ri p.addr p.bits preference lt]
    else match sys.routes with
      | none => none
      | some rs => some ((currentRoutes rs).map fun q => .ri q.addr q.bits preference lt)
  | .rdnss auto lifetime servers =>
    (applyRDNSS auto servers sys.addrs).map fun s => [.rdnss lifetime s]
  | .dnssl lifetime names => some [.dnssl lifetime names]
  | .mtu m => some [.mtu m]
  | .lla => match sys.mac with
    | none => some []
    | some (len, mac) => some [.lla len mac]
  | .captivePortal uri len => some [.captivePortal uri len]
  | .pref64 p lifetime => some [.pref64 p lifetime]

/-- left fold of `Apply` over the plugins, stopping at the first error -/
def applyAll (sys : SysState) : List Plugin → Option (List Opt)
  | [] => some []
  | p :: ps => match p.apply sys with
    | none => none
    | some os => match applyAll sys ps with
      | none => none
      | some rest => some (os ++ rest)

/-- `Interface.RouterAdvertisement(forwarding)`: the RA and whether the
    `InterfaceNotForwarding` misconfiguration is reported; `none` = error. -/
def routerAdvertisement (ifi : Interface) (sys : SysState) (forwarding : Bool) : Option (RA × Bool) :=
  match applyAll sys ifi.plugins with
  | none => none
  | some opts =>
    let ra : RA := {
      hopLimit := ifi.hopLimit, managed := ifi.managed, other := ifi.otherConfig,
      preference := ifi.preference, routerLifetime := ifi.defaultLifetime,
      reachable := ifi.reachable, retransmit := ifi.retransmit, options := opts }
    if ra.routerLifetime > 0 ∧ !forwarding then some ({ ra with routerLifetime := 0 }, true)
    else some (ra, false)

end Corerad.Model

namespace Corerad.Model.Observe

/-- header copy and forwarding rule of `Interface.RouterAdvertisement` -/
def finishRA (ifi : Interface) (forwarding : Bool) (opts : List Opt) : RA × Bool :=
  let ra : RA := {
    hopLimit := ifi.hopLimit, managed := ifi.managed, other := ifi.otherConfig,
    preference := ifi.preference, routerLifetime := ifi.defaultLifetime,
    reachable := ifi.reachable, retransmit := ifi.retransmit, options := opts }
  if ra.routerLifetime > 0 ∧ !forwarding then ({ ra with routerLifetime := 0 }, true)
  else (ra, false)

end Corerad.Model.Observe
